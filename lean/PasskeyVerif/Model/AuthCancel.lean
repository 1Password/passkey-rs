/-
Cancellation of a ceremony: the caller drops the operation at a suspension point.  Every `.await` of the
authenticator is on the store or on user validation, and each such call is an event of the model's
trace; dropping the future after `j` of them have run leaves the store in the state reached by the first
`j` events.  `applyEvents` replays the store effects of a trace prefix; `Lemmas/AuthStore.lean` reduces the
replay of a prefix to the trace's effect events, and for a registration the whole trace replays to the store the
ceremony ends with (`C07_make_replay_complete`).
-/
import PasskeyVerif.Model.AuthObs
namespace PasskeyVerif.Auth
open PasskeyVerif.AuthData (Bytes)

/-- the effect of one event on the store content (only accepted saves and updates have one) -/
def applyEvent (kind : StoreKind) (items : List Passkey) : Event → List Passkey
  | .save p _ _ _ _ none => saveRaw kind items p
  | .update id ctr none =>
    (match items.find? (fun q => q.credId == id) with
     | some q => (match updateRaw kind items { q with counter := ctr } with | .ok l => l | .error _ => items)
     | none => items)
  | _ => items

def applyEvents (kind : StoreKind) (items : List Passkey) (evs : List Event) : List Passkey :=
  evs.foldl (applyEvent kind) items

/-- observation of a ceremony dropped after `j` suspension points were passed -/
def obsCancelled (kind : StoreKind) (items : List Passkey) (trace : List Event) (j : Nat) : Obs :=
  { res := .cancelled, trace := (trace.take j).map evObsOf,
    store := sortSnaps ((applyEvents kind items (trace.take j)).map snapOf) }

end PasskeyVerif.Auth
