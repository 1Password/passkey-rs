/-
How the two ceremonies run, stated once.  A ceremony either stops *quietly* (`Quiet`: an error, the store content
as it was, no effect event in the trace) or it gets, after a quiet prefix, to its one write: `finishMake` (the
save) for a registration, `getAfterConsent` (the counter write-back) for an assertion.  Each function of
Model/Authenticator.lean that makes up a ceremony has one `…_cases` theorem with the complete outcome of every way
it can go, and the checks between consent and save are the function `makeChecks`; the properties are read off
these (a few statements about one exit or about two runs side by side still evaluate a definition under their
hypotheses).  `verdict` is what `check_user` decides apart from the event it leaves.
-/
import PasskeyVerif.Lemmas.AuthExt
import PasskeyVerif.Lemmas.AuthData
namespace PasskeyVerif.Auth
open PasskeyVerif.Auth.Spec PasskeyVerif.Generated
open PasskeyVerif.AuthData (Bytes AuthData)

def Event.isEffect : Event → Bool
  | .save _ _ _ _ _ _ => true
  | .update _ _ _ => true
  | _ => false

def effects (evs : List Event) : List Event := evs.filter Event.isEffect

theorem effects_append (a b : List Event) : effects (a ++ b) = effects a ++ effects b := List.filter_append ..

theorem mem_effects (e : Event) (evs : List Event) : e ∈ effects evs ↔ e ∈ evs ∧ e.isEffect = true := List.mem_filter

/-- the specification reads traces through `evObsOf` -/
theorem effects_eq_nil_iff (evs : List Event) : effects evs = [] ↔ ∀ e ∈ evs.map evObsOf, isEffect e = false := by
  have obs : ∀ e, isEffect (evObsOf e) = e.isEffect := fun e => by cases e <;> rfl
  simp [effects, List.filter_eq_nil_iff, obs]

@[simp] theorem Outcome.prepend_result {α} (ev : List Event) (o : Outcome α) : (o.prepend ev).result = o.result := rfl
@[simp] theorem Outcome.prepend_store {α} (ev : List Event) (o : Outcome α) : (o.prepend ev).store = o.store := rfl
@[simp] theorem Outcome.prepend_trace {α} (ev : List Event) (o : Outcome α) : (o.prepend ev).trace = ev ++ o.trace := rfl

/-- `t` is `s` after calls that wrote nothing: only the call count may differ -/
structure Store.Same (s t : Store) : Prop where
  kind : t.kind = s.kind
  items : t.items = s.items
  faults : t.faults = s.faults

theorem Store.Same.refl (s : Store) : s.Same s := ⟨rfl, rfl, rfl⟩
theorem Store.Same.tick {s t : Store} (h : s.Same t) : s.Same t.tick := ⟨h.kind, h.items, h.faults⟩
theorem Store.Same.trans {s t r : Store} (h : s.Same t) (h' : t.Same r) : s.Same r :=
  ⟨h'.kind.trans h.kind, h'.items.trans h.items, h'.faults.trans h.faults⟩
theorem Store.Same.storeObs {s t : Store} (h : s.Same t) : storeObs t = storeObs s := by
  unfold Auth.storeObs; rw [h.items]

theorem storeObs_tick (s : Store) : storeObs s.tick = storeObs s := rfl

theorem find_store (s : Store) (ids : Option (List Bytes)) (rp : Bytes) : (s.find ids rp).2.1 = s.tick := rfl

theorem find_event (s : Store) (ids : Option (List Bytes)) (rp : Bytes) :
    (s.find ids rp).2.2 = .find ids rp ((s.find ids rp).1.map fun l => l.map (·.credId)) := rfl

theorem firstCred_ok (found : Except Nat (List Passkey)) (p : Passkey) :
    firstCred found = .ok p ↔ ∃ rest, found = .ok (p :: rest) := by
  unfold firstCred
  split <;> simp

theorem find_of_nofault {s : Store} (h : s.fault? = none) (ids : Option (List Bytes)) (rp : Bytes) :
    (s.find ids rp).1 = findRaw s.kind s.items ids rp := by
  unfold Store.find
  rw [h]

theorem foundRaw_mem (kind : StoreKind) (items : List Passkey) (ids : Option (List Bytes)) (rp : Bytes) :
    ∀ p ∈ foundRaw kind items ids rp, p ∈ items := by
  intro p hp
  unfold foundRaw at hp
  cases kind with
  | memoryMap =>
    cases ids with
    | none => cases hp
    | some l =>
      obtain ⟨id, _, hf⟩ := List.mem_filterMap.mp hp
      exact List.mem_of_find?_eq_some hf
  | singleSlot =>
    -- whatever is returned is the head of the slot list, having passed a filter
    have head : ∀ f q, (items.head?).filter f = some q → q ∈ items :=
      fun f q h => List.mem_of_mem_head? (Option.filter_eq_some_iff.mp h).1
    cases ids with
    | some l =>
      dsimp only at hp
      split at hp
      · rename_i q hq
        obtain ⟨id, _, hid⟩ := List.exists_of_findSome?_eq_some hq
        rw [List.mem_singleton.mp hp]; exact head _ _ hid
      · cases hp
    | none => exact head _ _ (Option.mem_toList.mp hp)
  | reference d => exact (List.mem_filter.mp hp).1

theorem find_mem {s : Store} {ids : Option (List Bytes)} {rp : Bytes} {l : List Passkey}
    (h : (s.find ids rp).1 = .ok l) : ∀ p ∈ l, p ∈ s.items := by
  cases hf : s.fault? with
  | some e => unfold Store.find at h; rw [hf] at h; cases h
  | none =>
    rw [find_of_nofault hf] at h
    unfold findRaw at h
    split at h
    · cases h
    · cases h; exact foundRaw_mem _ _ _ _

theorem lookup_after_save (kind : StoreKind) (items : List Passkey) (p : Passkey) :
    findRaw kind (saveRaw kind items p) (some [p.credId]) p.rpId = .ok [p] := by
  have hfound : foundRaw kind (saveRaw kind items p) (some [p.credId]) p.rpId = [p] := by
    cases kind with
    | singleSlot => simp [foundRaw, saveRaw, Option.filter]
    | memoryMap =>
      -- the save dropped every other passkey with this id
      have hfind : (items.filter (fun q => q.credId != p.credId) ++ [p]).find? (fun q => q.credId == p.credId) = some p := by
        rw [List.find?_append, List.find?_eq_none.mpr]
        · simp
        · intro q hq
          simpa using (List.mem_filter.mp hq).2
      simp only [foundRaw, saveRaw, List.filterMap_cons, List.filterMap_nil, hfind]
    | reference d =>
      -- of the passkeys kept, none has this id; `p` has it and its own RP
      have hkept : (items.filter (fun q => q.credId != p.credId)).filter
          (fun q => q.rpId == p.rpId && [p.credId].any (· == q.credId)) = [] := by
        rw [List.filter_eq_nil_iff]
        intro q hq
        have hne : p.credId ≠ q.credId := fun h => by simpa [h] using (List.mem_filter.mp hq).2
        simp [hne]
      simp only [foundRaw, saveRaw, List.filter_append, hkept, List.nil_append]
      simp
  unfold findRaw
  rw [hfound]
  rfl
/-- the map-like stores drop the entries with the new passkey's id and append it -/
theorem saveRaw_of_ne_singleSlot {kind : StoreKind} (items : List Passkey) (p : Passkey) (hk : kind ≠ .singleSlot) :
    saveRaw kind items p = items.filter (fun q => q.credId != p.credId) ++ [p] := by
  cases kind with
  | singleSlot => exact absurd rfl hk
  | memoryMap => rfl
  | reference d => rfl

theorem updateRaw_single (kind : StoreKind) (p p' : Passkey) (hid : p'.credId = p.credId) :
    updateRaw kind [p] p' = .ok [p'] := by
  cases kind with
  | memoryMap => simp [updateRaw, hid]
  | singleSlot => rfl
  | reference d => simp [updateRaw, hid]

theorem Store.update_cases (s : Store) (p : Passkey) :
    (∃ f, s.update p = (.error f, s.tick, .update p.credId p.counter (some f)))
    ∨ (∃ l, updateRaw s.kind s.items p = .ok l
        ∧ s.update p = (.ok (), { s.tick with items := l }, .update p.credId p.counter none)) := by
  unfold Store.update
  cases s.fault? with
  | some f => exact .inl ⟨f, rfl⟩
  | none =>
    cases h : updateRaw s.kind s.items p with
    | error f => exact .inl ⟨f, rfl⟩
    | ok l => exact .inr ⟨l, rfl, rfl⟩

/-- an outcome that stopped before anything was written -/
structure Quiet {α} (s : Store) (o : Outcome α) : Prop where
  error : ∃ e, o.result = .error e
  same : s.Same o.store
  trace : effects o.trace = []

theorem Quiet.not_ok {α} {s : Store} {o : Outcome α} (h : Quiet s o) (r : α) : o.result ≠ .ok r := by
  obtain ⟨e, he⟩ := h.error
  rw [he]
  intro h'; cases h'

theorem Quiet.prepend {α} {s : Store} {o : Outcome α} {ev : List Event} (hev : effects ev = []) (h : Quiet s o) :
    Quiet s (o.prepend ev) :=
  ⟨h.error, h.same, by rw [Outcome.prepend_trace, effects_append, hev, h.trace]; rfl⟩

theorem obsOfMake_error {o : Outcome MakeResp} {e : Nat} (h : o.result = .error e) :
    obsOfMake o = ⟨.err e, o.trace.map evObsOf, storeObs o.store⟩ := by
  unfold obsOfMake; rw [h]

theorem obsOfGet_error {o : Outcome GetResp} {e : Nat} (h : o.result = .error e) (sig : Bytes) :
    obsOfGet o sig = ⟨.err e, o.trace.map evObsOf, storeObs o.store⟩ := by
  unfold obsOfGet; rw [h]

def flagsOf (p v : Bool) : UInt8 := (if p then Flags.UP else 0) ||| (if v then Flags.UV else 0)

/-- what `check_user` decides, whichever credential is shown: a status, or the flags of an answer that is enough -/
def verdict (u : UvCfg) (up uv : Bool) : Except Nat UInt8 :=
  if uv && u.verification != some true then .error eUnsupportedOption
  else match u.answer with
    | .error e => .error e
    | .ok (p, v) => if (!up || p) && (!uv || v) then .ok (flagsOf p v) else .error eOperationDenied

theorem checkUser_eq (u : UvCfg) (up uv : Bool) (c : Option Bytes) :
    checkUser u up uv c = (verdict u up uv, if uv && u.verification != some true then [] else [.uv c up uv]) := by
  unfold checkUser verdict
  split
  · rfl
  · cases u.answer with
    | error e => rfl
    | ok a =>
      obtain ⟨p, v⟩ := a
      cases up <;> cases uv <;> cases p <;> cases v <;> rfl

theorem verdict_ok {u : UvCfg} {up uv : Bool} {f : UInt8} (h : verdict u up uv = .ok f) :
    (uv && u.verification != some true) = false
      ∧ ∃ p v, u.answer = .ok (p, v) ∧ ((!up || p) && (!uv || v)) = true ∧ f = flagsOf p v := by
  unfold verdict at h
  split at h
  · cases h
  · rename_i hcap
    split at h
    · cases h
    · rename_i p v ha
      split at h
      · rename_i hg
        cases h
        exact ⟨by simpa using hcap, p, v, ha, hg, rfl⟩
      · cases h

theorem verdict_unsupported (u : UvCfg) (up : Bool) (hcap : u.verification ≠ some true) :
    verdict u up true = .error eUnsupportedOption := by
  unfold verdict
  rw [if_pos (by simpa using hcap)]

theorem checkUser_quiet (u : UvCfg) (up uv : Bool) (c : Option Bytes) : effects (checkUser u up uv c).2 = [] := by
  rw [checkUser_eq]; split <;> rfl

theorem excludePhase_same (s : Store) (req : MakeReq) : s.Same (excludePhase s req).2.1 := by
  unfold excludePhase
  split
  · split
    · exact .refl s
    · exact (Store.Same.refl s).tick
  · exact .refl s

theorem excludePhase_calls_items (s : Store) (req : MakeReq) : (excludePhase s req).2.1.items = s.items :=
  (excludePhase_same s req).items

theorem excludePhase_quiet (s : Store) (req : MakeReq) : effects (excludePhase s req).2.2 = [] := by
  unfold excludePhase
  split
  · split <;> rfl
  · rfl

theorem rkPhase_same (s : Store) (req : MakeReq) : s.Same (rkPhase s req).2.1 := by
  unfold rkPhase
  split
  · exact (Store.Same.refl s).tick
  · exact .refl s

theorem rkPhase_quiet (s : Store) (req : MakeReq) : effects (rkPhase s req).2.2 = [] := by
  unfold rkPhase; split <;> rfl

theorem rkPhase_refused (s : Store) (req : MakeReq) :
    (rkPhase s req).1 = (req.rk && refusesResidentKeys s.kind) := by
  unfold rkPhase refusesResidentKeys Store.info
  cases req.rk <;> cases discOf s.kind <;> rfl

/-- the store and the trace of `make_credential` after consent when it gets to `finishMake` -/
def beforeFinish (s : Store) (req : MakeReq) : Store × List Event :=
  ((rkPhase (excludePhase s req).2.1 req).2.1, (excludePhase s req).2.2 ++ (rkPhase (excludePhase s req).2.1 req).2.2)

theorem beforeFinish_same (s : Store) (req : MakeReq) : s.Same (beforeFinish s req).1 :=
  (excludePhase_same s req).trans (rkPhase_same _ req)

theorem beforeFinish_quiet (s : Store) (req : MakeReq) : effects (beforeFinish s req).2 = [] := by
  unfold beforeFinish
  rw [effects_append, excludePhase_quiet, rkPhase_quiet]; rfl

def makeAuthData (cfg : Cfg) (dr : Draws) (req : MakeReq) (flags : UInt8) (ctr : Option Nat) : AuthData :=
  ((AuthData.new req.rpId ctr).setFlags flags).setAcd ⟨cfg.aaguid, dr.credId, coseKeyBytes dr.key⟩

theorem chooseAlgorithm_err {cfg : Cfg} {params : List Int} {e : Nat} (h : chooseAlgorithm cfg params = .error e) :
    e = eUnsupportedAlgorithm := by
  unfold chooseAlgorithm at h
  split at h
  · cases h
  · cases h; rfl

theorem finishMake_eq (cfg : Cfg) (s : Store) (dr : Draws) (req : MakeReq) (flags : UInt8)
    (prf : Option PrfMakeOut) (st : Option HmacSecret) :
    finishMake cfg s dr req flags prf st =
      match s.tick.fault? with
      | some f => ⟨.error f, s.tick.tick,
          [.info, .save (newPasskey cfg (discOf s.kind) dr req st) req.userId req.rk req.up req.uv (some f)]⟩
      | none => ⟨.ok ⟨makeAuthData cfg dr req flags (if cfg.counterOn then some 0 else none), prf⟩,
          { s.tick.tick with items := saveRaw s.kind s.items (newPasskey cfg (discOf s.kind) dr req st) },
          [.info, .save (newPasskey cfg (discOf s.kind) dr req st) req.userId req.rk req.up req.uv none]⟩ := by
  unfold finishMake Store.save Store.info
  dsimp only
  cases s.tick.fault? <;> rfl

/-- the request passed every check of `make_credential` between consent and the save, in the order of the code;
`prf` and `stored` are what the extension processing yields for the response and for the passkey -/
structure MakePassed (cfg : Cfg) (s : Store) (dr : Draws) (req : MakeReq) (prf : Option PrfMakeOut)
    (stored : Option HmacSecret) : Prop where
  notExcluded : (excludePhase s req).1 = false
  algorithm : ∃ a, chooseAlgorithm cfg req.algs = .ok a
  residentKey : (req.rk && refusesResidentKeys s.kind) = false
  pinAuth : req.pinAuth = false
  extensions : makeExtensions cfg dr req.ext req.uv = .ok (prf, stored)

/-- the checks of `make_credential` between consent and the save, in the order of the code: the status it stops
with, or what the extension processing yields for the response and for the passkey -/
def makeChecks (cfg : Cfg) (s : Store) (dr : Draws) (req : MakeReq) : Except Nat (Option PrfMakeOut × Option HmacSecret) :=
  if (excludePhase s req).1 then .error eCredentialExcluded else
  match chooseAlgorithm cfg req.algs with
  | .error e => .error e
  | .ok _ =>
    if req.rk && refusesResidentKeys s.kind then .error eUnsupportedOption
    else if req.pinAuth then .error eUnsupportedOption
    else makeExtensions cfg dr req.ext req.uv

theorem MakePassed.of_checks {cfg : Cfg} {s : Store} {dr : Draws} {req : MakeReq} {prf : Option PrfMakeOut}
    {stored : Option HmacSecret} (h : makeChecks cfg s dr req = .ok (prf, stored)) : MakePassed cfg s dr req prf stored := by
  unfold makeChecks at h
  split at h
  · cases h
  rename_i hex
  split at h
  · cases h
  rename_i a halg
  split at h
  · cases h
  rename_i href
  split at h
  · cases h
  rename_i hpin
  exact ⟨by simpa using hex, ⟨a, halg⟩, by simpa using href, by simpa using hpin, h⟩

/-- where a failing check of `make_credential` leaves the store and the trace: the first two come before the
capability question, the others after it -/
def stopAt (cfg : Cfg) (s : Store) (req : MakeReq) : Store × List Event :=
  if (excludePhase s req).1 then (excludePhase s req).2 else
  match chooseAlgorithm cfg req.algs with
  | .error _ => (excludePhase s req).2
  | .ok _ => beforeFinish s req

theorem stopAt_same (cfg : Cfg) (s : Store) (req : MakeReq) : s.Same (stopAt cfg s req).1 := by
  unfold stopAt
  split
  · exact excludePhase_same s req
  · split
    · exact excludePhase_same s req
    · exact beforeFinish_same s req

theorem stopAt_quiet (cfg : Cfg) (s : Store) (req : MakeReq) : effects (stopAt cfg s req).2 = [] := by
  unfold stopAt
  split
  · exact excludePhase_quiet s req
  · split
    · exact excludePhase_quiet s req
    · exact beforeFinish_quiet s req

/-- `make_credential` after consent stops with the status of the first failing check, or gets to `finishMake` -/
theorem makeAfterConsent_eq (cfg : Cfg) (s : Store) (dr : Draws) (req : MakeReq) (flags : UInt8) :
    makeAfterConsent cfg s dr req flags =
      match makeChecks cfg s dr req with
      | .error e => ⟨.error e, (stopAt cfg s req).1, (stopAt cfg s req).2⟩
      | .ok (prf, stored) =>
        (finishMake cfg (beforeFinish s req).1 dr req flags prf stored).prepend (beforeFinish s req).2 := by
  unfold makeAfterConsent makeChecks stopAt beforeFinish
  dsimp only
  rw [rkPhase_refused, (excludePhase_same s req).kind]
  -- the same tests in the same order on both sides
  split
  · rfl
  cases chooseAlgorithm cfg req.algs with
  | error e => rfl
  | ok a =>
    dsimp only
    split
    · rfl
    split
    · rfl
    cases makeExtensions cfg dr req.ext req.uv <;> rfl

theorem makeAfterConsent_of_stop {cfg : Cfg} {s : Store} {dr : Draws} {req : MakeReq} {e : Nat} (flags : UInt8)
    (h : makeChecks cfg s dr req = .error e) :
    Quiet s (makeAfterConsent cfg s dr req flags) ∧ (makeAfterConsent cfg s dr req flags).result = .error e := by
  rw [makeAfterConsent_eq, h]
  exact ⟨⟨⟨e, rfl⟩, stopAt_same cfg s req, stopAt_quiet cfg s req⟩, rfl⟩

/-- credential-excluded is the status of the exclude phase and of no later check -/
theorem makeChecks_excluded (cfg : Cfg) (s : Store) (dr : Draws) (req : MakeReq) :
    makeChecks cfg s dr req = .error eCredentialExcluded ↔ (excludePhase s req).1 = true := by
  have other : ∀ {e : Nat}, e ≠ eCredentialExcluded →
      ((.error e : Except Nat (Option PrfMakeOut × Option HmacSecret)) = .error eCredentialExcluded ↔ False) :=
    fun hne => ⟨fun h => hne (Except.error.inj h), False.elim⟩
  unfold makeChecks
  split
  · rename_i hex
    exact ⟨fun _ => hex, fun _ => rfl⟩
  rename_i hex
  rw [iff_false_right hex]
  split
  · rename_i e halg
    rw [chooseAlgorithm_err halg]
    exact (other (by decide)).mp
  split
  · exact (other (by decide)).mp
  split
  · exact (other (by decide)).mp
  cases hext : makeExtensions cfg dr req.ext req.uv with
  | error e =>
    rw [makeExtensions_err hext]
    exact (other (by decide)).mp
  | ok x => intro h; cases h

theorem makeCredential_eq (cfg : Cfg) (u : UvCfg) (s : Store) (dr : Draws) (req : MakeReq) :
    makeCredential cfg u s dr req =
      if req.up then
        match verdict u req.up req.uv with
        | .error e => ⟨.error e, s, (checkUser u req.up req.uv none).2⟩
        | .ok flags => (makeAfterConsent cfg s dr req flags).prepend [.uv none req.up req.uv]
      else ⟨.error eInvalidOption, s, []⟩ := by
  unfold makeCredential
  rw [checkUser_eq]
  cases req.up
  · rfl
  · cases hv : verdict u true req.uv with
    | error e => rfl
    | ok flags => rw [(verdict_ok hv).1]; rfl

theorem makeCredential_of_waived (cfg : Cfg) (u : UvCfg) (s : Store) (dr : Draws) (req : MakeReq) (h : req.up = false) :
    makeCredential cfg u s dr req = ⟨.error eInvalidOption, s, []⟩ := by
  rw [makeCredential_eq, h]; rfl

theorem makeCredential_of_refused (cfg : Cfg) (u : UvCfg) (s : Store) (dr : Draws) (req : MakeReq) {e : Nat}
    (h : verdict u req.up req.uv = .error e) :
    ∃ ev, makeCredential cfg u s dr req = ⟨.error (if req.up then e else eInvalidOption), s, ev⟩ := by
  rw [makeCredential_eq, h]
  cases req.up
  · exact ⟨[], rfl⟩
  · exact ⟨_, rfl⟩

theorem eq_of_mem_of_effects {tr : List Event} {e e' : Event} (hm : e ∈ tr) (he : e.isEffect = true)
    (h : effects tr = [e']) : e = e' :=
  List.mem_singleton.mp (h ▸ (mem_effects e tr).mpr ⟨hm, he⟩)

/-- `o` is a registration that got to its save: the user consented (`flags`), the request passed every check, and
the store answered the save of the new passkey with `f` -/
structure Saved (cfg : Cfg) (u : UvCfg) (s : Store) (dr : Draws) (req : MakeReq) (o : Outcome MakeResp)
    (flags : UInt8) (prf : Option PrfMakeOut) (stored : Option HmacSecret) (f : Option Nat) : Prop where
  consent : verdict u req.up req.uv = .ok flags
  passed : MakePassed cfg s dr req prf stored
  asked : ∃ rest, o.trace = .uv none req.up req.uv :: rest
  effects : effects o.trace = [.save (newPasskey cfg (discOf s.kind) dr req stored) req.userId req.rk req.up req.uv f]
  kind : o.store.kind = s.kind
  items : o.store.items = match f with
    | none => saveRaw s.kind s.items (newPasskey cfg (discOf s.kind) dr req stored)
    | some _ => s.items
  result : o.result = match f with
    | none => .ok ⟨makeAuthData cfg dr req flags (if cfg.counterOn then some 0 else none), prf⟩
    | some e => .error e

theorem makeCredential_cases (cfg : Cfg) (u : UvCfg) (s : Store) (dr : Draws) (req : MakeReq) :
    Quiet s (makeCredential cfg u s dr req)
    ∨ ∃ flags prf stored f, Saved cfg u s dr req (makeCredential cfg u s dr req) flags prf stored f := by
  rw [makeCredential_eq]
  rcases Bool.eq_false_or_eq_true req.up with hup | hup
  · rw [if_pos hup]
    cases hv : verdict u req.up req.uv with
    | error e => exact .inl ⟨⟨e, rfl⟩, .refl s, checkUser_quiet ..⟩
    | ok flags =>
      dsimp only
      cases hc : makeChecks cfg s dr req with
      | error e => exact .inl ((makeAfterConsent_of_stop flags hc).1.prepend rfl)
      | ok x =>
        have hs := beforeFinish_same s req
        -- of the events up to the store's answer, only the save is an effect
        have he : ∀ e, effects (.uv none req.up req.uv :: ((beforeFinish s req).2 ++ [.info, e])) = effects [e] :=
          fun e => by rw [← List.singleton_append, effects_append, effects_append, beforeFinish_quiet]; rfl
        rw [makeAfterConsent_eq, hc]
        dsimp only
        rw [finishMake_eq, hs.kind, hs.items]
        cases (beforeFinish s req).1.tick.fault? with
        | some f => exact .inr ⟨flags, x.1, x.2, some f, hv, .of_checks hc, ⟨_, rfl⟩, he _, hs.kind, hs.items, rfl⟩
        | none => exact .inr ⟨flags, x.1, x.2, none, hv, .of_checks hc, ⟨_, rfl⟩, he _, hs.kind, rfl, rfl⟩
  · rw [if_neg (by rw [hup]; exact Bool.false_ne_true)]
    exact .inl ⟨⟨_, rfl⟩, .refl s, rfl⟩

theorem makeCredential_ok {cfg : Cfg} {u : UvCfg} {s : Store} {dr : Draws} {req : MakeReq} {r : MakeResp}
    (h : (makeCredential cfg u s dr req).result = .ok r) :
    ∃ flags prf stored, Saved cfg u s dr req (makeCredential cfg u s dr req) flags prf stored none
      ∧ r = ⟨makeAuthData cfg dr req flags (if cfg.counterOn then some 0 else none), prf⟩ := by
  rcases makeCredential_cases cfg u s dr req with q | ⟨flags, prf, stored, f, hs⟩
  · exact absurd h (q.not_ok r)
  · cases f with
    | none => exact ⟨flags, prf, stored, hs, Except.ok.inj (h.symm.trans hs.result)⟩
    | some e => rw [hs.result] at h; cases h

theorem makeCredential_kind (cfg : Cfg) (u : UvCfg) (s : Store) (dr : Draws) (req : MakeReq) :
    (makeCredential cfg u s dr req).store.kind = s.kind := by
  rcases makeCredential_cases cfg u s dr req with q | ⟨_, _, _, _, hs⟩
  · exact q.same.kind
  · exact hs.kind

theorem signPhase_eq (cfg : Cfg) (s : Store) (req : GetReq) (flags : UInt8) (cred : Passkey) :
    signPhase cfg s req flags cred = ⟨(signPhase cfg s req flags cred).result, s, []⟩ := by
  unfold signPhase
  split
  · rfl
  · split <;> rfl

theorem signPhase_ok {cfg : Cfg} {s : Store} {req : GetReq} {flags : UInt8} {cred : Passkey} {r : GetResp}
    (h : (signPhase cfg s req flags cred).result = .ok r) :
    ∃ prf ad, getExtensions cfg cred req.ext (flags &&& Flags.UV != 0) = .ok prf
      ∧ ((AuthData.new req.rpId cred.counter).setFlags flags).toVec = some ad
      ∧ r = { credId := cred.credId, authData := (AuthData.new req.rpId cred.counter).setFlags flags,
              signed := ⟨cred.key, ad ++ req.cdh⟩, userHandle := cred.userHandle, unsignedPrf := prf } := by
  unfold signPhase at h
  split at h
  · cases h
  · rename_i prf hprf
    split at h
    · cases h
    · rename_i ad had
      cases h
      exact ⟨prf, ad, hprf, had, rfl⟩

theorem getAfterConsent_cases (cfg : Cfg) (s : Store) (req : GetReq) (flags : UInt8) (cred : Passkey) :
    (cred.counter = none ∧ getAfterConsent cfg s req flags cred = ⟨(signPhase cfg s req flags cred).result, s, []⟩)
    ∨ (∃ c f, cred.counter = some c ∧ getAfterConsent cfg s req flags cred
          = ⟨.error f, s.tick, [.update cred.credId (some (bump c)) (some f)]⟩)
    ∨ (∃ c l, cred.counter = some c ∧ updateRaw s.kind s.items { cred with counter := some (bump c) } = .ok l
        ∧ getAfterConsent cfg s req flags cred
          = ⟨(signPhase cfg { s.tick with items := l } req flags { cred with counter := some (bump c) }).result,
              { s.tick with items := l }, [.update cred.credId (some (bump c)) none]⟩) := by
  unfold getAfterConsent
  cases hc : cred.counter with
  | none => exact .inl ⟨rfl, signPhase_eq ..⟩
  | some c =>
    dsimp only
    rcases Store.update_cases s { cred with counter := some (bump c) } with ⟨f, h⟩ | ⟨l, hl, h⟩
    · exact .inr (.inl ⟨c, f, rfl, by rw [h]⟩)
    · exact .inr (.inr ⟨c, l, rfl, hl, by rw [h, signPhase_eq]; rfl⟩)

/-- `r` is the assertion made with `cred` under `flags`: the credential's id, user handle and key, its counter
advanced if it has one, the signature over the encoded authenticator data followed by the client data hash -/
structure AssertedWith (req : GetReq) (flags : UInt8) (cred : Passkey) (r : GetResp) : Prop where
  authData : r.authData = (AuthData.new req.rpId (cred.counter.map bump)).setFlags flags
  credId : r.credId = cred.credId
  userHandle : r.userHandle = cred.userHandle
  key : r.signed.key = cred.key
  signed : ∃ ad, r.authData.toVec = some ad ∧ r.signed.message = ad ++ req.cdh

theorem getAfterConsent_ok {cfg : Cfg} {s : Store} {req : GetReq} {flags : UInt8} {cred : Passkey} {r : GetResp}
    (h : (getAfterConsent cfg s req flags cred).result = .ok r) : AssertedWith req flags cred r := by
  rcases getAfterConsent_cases cfg s req flags cred with ⟨hc, ho⟩ | ⟨c, f, hc, ho⟩ | ⟨c, l, hc, -, ho⟩ <;> rw [ho] at h
  · obtain ⟨_, ad, _, had, rfl⟩ := signPhase_ok h
    exact ⟨by rw [hc]; rfl, rfl, rfl, rfl, ad, had, rfl⟩
  · cases h
  · obtain ⟨_, ad, _, had, rfl⟩ := signPhase_ok h
    exact ⟨by rw [hc]; rfl, rfl, rfl, rfl, ad, had, rfl⟩

theorem getAssertion_eq (cfg : Cfg) (u : UvCfg) (s : Store) (req : GetReq) :
    getAssertion cfg u s req =
      let found := (s.find (allowIds req) req.rpId).1
      let ev := Event.find (allowIds req) req.rpId (found.map fun l => l.map (·.credId))
      if req.pinAuth then ⟨.error ePinAuthInvalid, s.tick, [ev]⟩ else
      if req.rk then ⟨.error eUnsupportedOption, s.tick, [ev]⟩ else
      match verdict u req.up req.uv with
      | .error e => ⟨.error e, s.tick, ev :: (checkUser u req.up req.uv (shownOf (firstCred found))).2⟩
      | .ok flags =>
        match firstCred found with
        | .error e => ⟨.error e, s.tick, [ev, .uv none req.up req.uv]⟩
        | .ok p => (getAfterConsent cfg s.tick req flags p).prepend [ev, .uv (some p.credId) req.up req.uv] := by
  unfold getAssertion
  dsimp only
  rw [checkUser_eq, find_event, find_store]
  cases req.pinAuth
  · cases req.rk
    · cases hv : verdict u req.up req.uv with
      | error e => rfl
      | ok flags =>
        rw [(verdict_ok hv).1]
        cases firstCred (s.find (allowIds req) req.rpId).1 <;> rfl
    · rfl
  · rfl

theorem getAssertion_of_refused (cfg : Cfg) (u : UvCfg) (s : Store) (req : GetReq) {e : Nat}
    (h : verdict u req.up req.uv = .error e) :
    ∃ ev, getAssertion cfg u s req
      = ⟨.error (if req.pinAuth then ePinAuthInvalid else if req.rk then eUnsupportedOption else e), s.tick, ev⟩ := by
  rw [getAssertion_eq, h]
  dsimp only
  cases req.pinAuth
  · cases req.rk
    · exact ⟨_, rfl⟩
    · exact ⟨_, rfl⟩
  · exact ⟨_, rfl⟩

theorem getAssertion_cases (cfg : Cfg) (u : UvCfg) (s : Store) (req : GetReq) :
    Quiet s (getAssertion cfg u s req)
    ∨ ∃ p rest flags, (s.find (allowIds req) req.rpId).1 = .ok (p :: rest) ∧ verdict u req.up req.uv = .ok flags
        ∧ (req.pinAuth || req.rk) = false
        ∧ getAssertion cfg u s req = (getAfterConsent cfg s.tick req flags p).prepend
            [.find (allowIds req) req.rpId (.ok ((p :: rest).map (·.credId))), .uv (some p.credId) req.up req.uv] := by
  have quiet : ∀ e ev, effects ev = [] → Quiet s (⟨.error e, s.tick, ev⟩ : Outcome GetResp) :=
    fun e ev h => ⟨⟨e, rfl⟩, (Store.Same.refl s).tick, h⟩
  rw [getAssertion_eq]
  dsimp only
  cases req.pinAuth
  · cases req.rk
    · cases hv : verdict u req.up req.uv with
      | error e => exact .inl (quiet e _ (by rw [← List.singleton_append, effects_append, checkUser_quiet]; rfl))
      | ok flags =>
        cases hm : firstCred (s.find (allowIds req) req.rpId).1 with
        | error e => exact .inl (quiet e _ rfl)
        | ok p =>
          obtain ⟨rest, hf⟩ := (firstCred_ok _ _).mp hm
          rw [hf]
          exact .inr ⟨p, rest, flags, rfl, rfl, rfl, rfl⟩
    · exact .inl (quiet _ _ rfl)
  · exact .inl (quiet _ _ rfl)

/-- a successful assertion: the user consented, and the response is made with the first credential of the lookup -/
theorem getAssertion_ok {cfg : Cfg} {u : UvCfg} {s : Store} {req : GetReq} {r : GetResp}
    (h : (getAssertion cfg u s req).result = .ok r) :
    ∃ p rest flags, (s.find (allowIds req) req.rpId).1 = .ok (p :: rest) ∧ verdict u req.up req.uv = .ok flags
      ∧ AssertedWith req flags p r
      ∧ (getAfterConsent cfg s.tick req flags p).result = .ok r
      ∧ getAssertion cfg u s req = (getAfterConsent cfg s.tick req flags p).prepend
          [.find (allowIds req) req.rpId (.ok ((p :: rest).map (·.credId))), .uv (some p.credId) req.up req.uv] := by
  rcases getAssertion_cases cfg u s req with q | ⟨p, rest, flags, hf, hv, -, ho⟩
  · exact absurd h (q.not_ok r)
  · have hr : (getAfterConsent cfg s.tick req flags p).result = .ok r := by rw [ho] at h; exact h
    exact ⟨p, rest, flags, hf, hv, getAfterConsent_ok hr, hr, ho⟩

theorem getD_append_len {α} (l1 l2 : List α) (n j : Nat) (d : α) (h : l1.length = n) :
    (l1 ++ l2).getD (n + j) d = l2.getD j d := by
  subst h
  rw [List.getD_eq_getElem?_getD, List.getD_eq_getElem?_getD, List.getElem?_append_right (by omega)]
  simp

end PasskeyVerif.Auth
