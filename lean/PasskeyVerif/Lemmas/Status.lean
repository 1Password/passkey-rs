/- Lemmas next to Model/Status.lean (Props/C13): what the client's error map looks at. -/
import PasskeyVerif.Model.Status
namespace PasskeyVerif.Status

theorem getD_of_findIdx (tbl : List (String × Nat)) (b i : Nat) (h : findIdx tbl b = some i) :
    (tbl.getD i ("", 0)).2 = b := by
  obtain ⟨hi, hp, _⟩ := List.findIdx?_eq_some_iff_getElem.mp h
  rw [List.getD_eq_getElem?_getD, List.getElem?_eq_getElem hi]
  simpa using hp

theorem toWebauthn_cases (s : Status) :
    (toWebauthn s = .credentialNotFound ∧ toByte s = 0x2E)
    ∨ toWebauthn s = .authenticatorError (toByte s) := by
  cases s with
  | ctap2Known i =>
    unfold toWebauthn
    dsimp only
    split
    · exact Or.inl ⟨rfl, getD_of_findIdx _ _ _ (Eq.symm ‹_›)⟩
    · exact Or.inr rfl
  | _ => exact Or.inr rfl

end PasskeyVerif.Status
