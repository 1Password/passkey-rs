/-
The round trip of the `serde_workaround!` model (Props/C13): reading back the entries a serialisation wrote leaves the
accumulator in closed form, `valOf` of the schema and the values over what was there (`collect_entries`), and from such
an accumulator the final pass returns the values (`finish_vals`).  Ascending keys make each key's entry unique.
-/
import PasskeyVerif.Model.CtapMsg
namespace PasskeyVerif.CtapMsg
open PasskeyVerif.Generated.Ctap PasskeyVerif.Cbor

def Ascending : List Field → Prop
  | [] => True
  | [_] => True
  | f :: g :: rest => f.key < g.key ∧ Ascending (g :: rest)

-- `instDecidableAscending` in the last case is this instance itself, under the name Lean gives it
instance : (s : List Field) → Decidable (Ascending s)
  | [] => isTrue trivial
  | [_] => isTrue trivial
  | f :: g :: rest =>
    match (inferInstance : Decidable (f.key < g.key)), (instDecidableAscending (g :: rest)) with
    | isTrue h1, isTrue h2 => isTrue ⟨h1, h2⟩
    | isFalse h1, _ => isFalse (fun h => h1 h.1)
    | _, isFalse h2 => isFalse (fun h => h2 h.2)

/-- the schema properties the theorems need; decidable, checked on every regenerated schema -/
structure SchemaOk (s : List Field) : Prop where
  asc : Ascending s
  small : ∀ f ∈ s, f.key ≤ 255
  skipHasDefault : ∀ f ∈ s, f.skipIfNone = true → f.hasDefault = true

theorem ascending_tail (f : Field) (fs : List Field) (h : Ascending (f :: fs)) : Ascending fs := by
  cases fs with
  | nil => trivial
  | cons g rest => exact h.2

theorem ascending_head_lt (f : Field) (fs : List Field) (h : Ascending (f :: fs)) : ∀ g ∈ fs, f.key < g.key := by
  induction fs generalizing f with
  | nil => intro g hg; cases hg
  | cons g rest ih =>
    intro x hx
    rw [List.mem_cons] at hx
    rcases hx with rfl | hx
    · exact h.1
    · have := ih g h.2 x hx
      have := h.1
      omega

/-- value of the member with key `k` -/
def valOf : List Field → Vals → Nat → Option Item
  | f :: fs, v :: vs, k => if f.key = k then v else valOf fs vs k
  | _, _, _ => none

theorem valOf_none_of_notin (fs : List Field) (vs : Vals) (k : Nat) (h : ∀ g ∈ fs, g.key ≠ k) : valOf fs vs k = none := by
  induction fs generalizing vs with
  | nil => cases vs <;> rfl
  | cons f rest ih =>
    cases vs with
    | nil => rfl
    | cons v vs =>
      simp only [valOf]
      rw [if_neg (h f (List.mem_cons_self))]
      exact ih vs (fun g hg => h g (List.mem_cons_of_mem _ hg))

theorem identOf_field (schema : List Field) (f : Field) (hf : f ∈ schema) (hs : f.key ≤ 255) :
    identOf schema (.uint f.key) = some (.field f.key) := by
  unfold identOf
  dsimp only
  rw [if_pos hs]
  have : schema.any (fun g => g.key == f.key) = true := by
    rw [List.any_eq_true]; exact ⟨f, hf, by simp⟩
  rw [this]; rfl

theorem collect_entries (schema : List Field) (validVal : Nat → Item → Bool) :
    ∀ (fs : List Field) (vs : Vals) (acc : Acc),
      (∀ f ∈ fs, f ∈ schema ∧ f.key ≤ 255) → Ascending fs →
      (∀ f ∈ fs, acc f.key = none) →
      (∀ f v, (f, some v) ∈ fs.zip vs → validVal f.key v = true) →
      collect schema validVal (entriesOf fs vs) acc
        = .ok (fun k => match valOf fs vs k with | some i => some i | none => acc k) := by
  intro fs
  induction fs with
  | nil =>
    intro vs acc _ _ _ _
    cases vs <;> simp [entriesOf, collect, valOf]
  | cons f rest ih =>
    intro vs acc hmem hasc hacc hval
    cases vs with
    | nil => simp [entriesOf, collect, valOf]
    | cons v vs =>
      have hlt := ascending_head_lt f rest hasc
      have hrest_mem : ∀ g ∈ rest, g ∈ schema ∧ g.key ≤ 255 := fun g hg => hmem g (List.mem_cons_of_mem _ hg)
      have hrest_val : ∀ g w, (g, some w) ∈ rest.zip vs → validVal g.key w = true :=
        fun g w hgw => hval g w (by simp [List.zip_cons_cons, hgw])
      have hnone : ∀ k, f.key = k → valOf rest vs k = none :=
        fun k hk => valOf_none_of_notin rest vs k (fun g hg => by have := hlt g hg; omega)
      cases v with
      | none =>
        simp only [entriesOf]
        rw [ih vs acc hrest_mem (ascending_tail f rest hasc) (fun g hg => hacc g (List.mem_cons_of_mem _ hg)) hrest_val]
        congr 1
        funext k
        simp only [valOf]
        by_cases hk : f.key = k
        · rw [if_pos hk, hnone k hk]
        · rw [if_neg hk]
      | some i =>
        simp only [entriesOf, collect]
        obtain ⟨hfm, hfs⟩ := hmem f (List.mem_cons_self)
        rw [identOf_field schema f hfm hfs]
        have ha : acc f.key = none := hacc f (List.mem_cons_self)
        have hv : validVal f.key i = true := hval f i (by simp [List.zip_cons_cons])
        simp only [ha, Option.isSome_none, Bool.false_eq_true, if_false, hv, Bool.not_true]
        rw [ih vs (acc.set f.key i) hrest_mem (ascending_tail f rest hasc)
          (fun g hg => by
            have := hlt g hg
            simp only [Acc.set]
            rw [if_neg (by omega)]
            exact hacc g (List.mem_cons_of_mem _ hg)) hrest_val]
        congr 1
        funext k
        simp only [valOf]
        by_cases hk : f.key = k
        · rw [if_pos hk, hnone k hk]
          simp [Acc.set, hk]
        · rw [if_neg hk]
          cases valOf rest vs k with
          | some x => rfl
          | none => simp only [Acc.set]; rw [if_neg (fun e => hk e.symm)]

/-- well-formed message values for a schema: one value per member; a member may be absent only if it is a
`skip_serializing_if = Option::is_none` member (an `Option` whose default is `None`) -/
structure ValsOk (schema : List Field) (dflt : Nat → Option Item) (validVal : Nat → Item → Bool) (vals : Vals) : Prop where
  len : vals.length = schema.length
  absent : ∀ f, (f, none) ∈ schema.zip vals → f.skipIfNone = true ∧ dflt f.key = none
  valid : ∀ f v, (f, some v) ∈ schema.zip vals → validVal f.key v = true

theorem finish_vals (dflt : Nat → Option Item) (acc : Acc) :
    ∀ (fs : List Field) (vs : Vals), vs.length = fs.length →
      (∀ f v, (f, v) ∈ fs.zip vs → (acc f.key = v) ∧ (v = none → f.hasDefault = true ∧ dflt f.key = none)) →
      finish dflt fs acc = .ok vs := by
  intro fs
  induction fs with
  | nil => intro vs hl _; cases vs with | nil => rfl | cons _ _ => simp at hl
  | cons f rest ih =>
    intro vs hl h
    cases vs with
    | nil => simp at hl
    | cons v vs =>
      obtain ⟨h1, h2⟩ := h f v (by simp [List.zip_cons_cons])
      have hrec := ih vs (by simpa using hl) (fun g w hgw => h g w (by simp [List.zip_cons_cons, hgw]))
      simp only [finish, h1, hrec]
      cases v with
      | some i => rfl
      | none =>
        obtain ⟨hd, hn⟩ := h2 rfl
        simp [hd, hn]

theorem valOf_at (fs : List Field) (vs : Vals) (hasc : Ascending fs) (hl : vs.length = fs.length) :
    ∀ f v, (f, v) ∈ fs.zip vs → valOf fs vs f.key = v := by
  induction fs generalizing vs with
  | nil => intro f v h; simp at h
  | cons g rest ih =>
    intro f v h
    cases vs with
    | nil => simp at h
    | cons w ws =>
      simp only [List.zip_cons_cons, List.mem_cons, Prod.mk.injEq] at h
      rcases h with ⟨rfl, rfl⟩ | h
      · simp [valOf]
      · have hlt := ascending_head_lt g rest hasc f (List.of_mem_zip h).1
        simp only [valOf]
        rw [if_neg (by omega)]
        exact ih ws (ascending_tail g rest hasc) (by simpa using hl) f v h

theorem deserialize_serialize (schema : List Field) (hs : SchemaOk schema) (validVal : Nat → Item → Bool)
    (dflt : Nat → Option Item) (vals : Vals) (hv : ValsOk schema dflt validVal vals) :
    deserialize schema validVal dflt (serialize schema vals) = .ok vals := by
  unfold deserialize serialize
  dsimp only
  rw [collect_entries schema validVal schema vals Acc.empty (fun f hf => ⟨hf, hs.small f hf⟩) hs.asc
    (fun _ _ => rfl) hv.valid]
  dsimp only
  apply finish_vals dflt _ schema vals hv.len
  intro f v hfv
  have hval := valOf_at schema vals hs.asc hv.len f v hfv
  refine ⟨?_, ?_⟩
  · rw [hval]; cases v <;> rfl
  · intro hn
    subst hn
    obtain ⟨h1, h2⟩ := hv.absent f hfv
    exact ⟨hs.skipHasDefault f (List.of_mem_zip hfv).1 h1, h2⟩

theorem keys_of_entries (fs : List Field) (vs : Vals) :
    keysOf (entriesOf fs vs) = ((fs.zip vs).filter (fun p => p.2.isSome)).map (fun p => p.1.key) := by
  induction fs generalizing vs with
  | nil => cases vs <;> rfl
  | cons f rest ih =>
    cases vs with
    | nil => rfl
    | cons v vs =>
      cases v with
      | none => simp [entriesOf, ih]
      | some i => simp [entriesOf, keysOf, ih]

end PasskeyVerif.CtapMsg
