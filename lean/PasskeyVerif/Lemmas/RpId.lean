/- For C01: the string checks of `RpIdVerifier` against `LabelSuffix`, and what `assert_web_rp_id` and
`assert_android_rp_id` share. (`RpId.splitDot`/`hasEmptyLabel` of the model are `Psl.Spec.splitDots`/
`hasEmptyLabel` word for word; nothing here needs that.) -/
import PasskeyVerif.Spec.RpId
namespace PasskeyVerif.RpId
open PasskeyVerif.Psl (Str dot)

theorem stripSuffix_some (s suf rest : Str) (h : stripSuffix s suf = some rest) : s = rest ++ suf := by
  unfold stripSuffix at h
  split at h
  · rename_i hc
    cases h
    have := List.take_append_drop (s.length - suf.length) s
    rw [hc.2] at this
    exact this.symm
  · cases h

theorem labelSuffix_of_check (host rp : Str) (h : isEqualOrLabelSuffix host rp = true) :
    Spec.LabelSuffix rp host := by
  unfold isEqualOrLabelSuffix at h
  split at h
  · rename_i rest hs
    have hh := stripSuffix_some host rp rest hs
    simp only [Bool.or_eq_true, List.isEmpty_iff, decide_eq_true_eq] at h
    rcases h with h | h
    · left; rw [hh, h]; rfl
    · right
      obtain ⟨p, hp⟩ := List.getLast?_eq_some_iff.mp h
      exact ⟨p, by rw [hh, hp]; simp⟩
  · cases h

theorem assertValidRpId_ok {v : Verifier} {rp d : Str} (h : assertValidRpId v rp = some (.ok d)) :
    d = rp ∧ rp = localhost ∧ v.allowLocalhost = true := by
  unfold assertValidRpId at h
  split at h
  · rename_i hl
    split at h
    · rename_i ha; cases h; exact ⟨rfl, hl, ha⟩
    · cases h
  · split at h <;> cases h

theorem assertValidRpId_none {v : Verifier} {rp : Str} (h : assertValidRpId v rp = none) :
    registrable v rp = true := by
  unfold assertValidRpId at h
  split at h
  · split at h <;> cases h
  · split at h
    · cases h
    · rename_i hr; simpa using hr

/-- What `assert_web_rp_id` and `assert_android_rp_id` share: a requested RP ID must have no empty label
and be a label-aligned suffix of the host; then the effective RP ID (the one requested, otherwise the
host) goes through the origin-specific checks `step`. -/
theorem effective_of_ok (host : Str) (rp : Option Str) (step : Str → Except WErr Str) (d : Str)
    (h : (match rp with
      | some rp =>
        if hasEmptyLabel rp then .error .invalidRpId
        else if !isEqualOrLabelSuffix host rp then .error .originRpMissmatch
        else step rp
      | none => step host : Except WErr Str) = .ok d) :
    step (rp.getD host) = .ok d ∧ Spec.LabelSuffix (rp.getD host) host := by
  cases rp with
  | none => exact ⟨h, Or.inl rfl⟩
  | some r =>
    dsimp only at h
    split at h
    · cases h
    · split at h
      · cases h
      · rename_i hsuf
        exact ⟨h, labelSuffix_of_check host r (by simpa using hsuf)⟩

end PasskeyVerif.RpId
