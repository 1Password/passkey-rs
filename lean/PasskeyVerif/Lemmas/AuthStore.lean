/-
What a ceremony does to the store.  A registration has at most one effect event, the save of the complete new
passkey, and an assertion at most one, the write-back of the located credential's counter; so replaying any
prefix of a trace (`applyEvents`, the cancellation model of Props/C07) gives the store before, or the store
before with that one effect applied.  The write-back puts nothing into the store but the located credential with
another counter (Props/C11: stored user handles stay; Props/C08, C19: the counter of a store's only credential).
-/
import PasskeyVerif.Lemmas.Auth
import PasskeyVerif.Model.AuthCancel
namespace PasskeyVerif.Auth
open PasskeyVerif.Auth.Spec
open PasskeyVerif.AuthData (Bytes AuthData)

theorem applyEvent_noeffect (kind : StoreKind) (items : List Passkey) (e : Event) (h : e.isEffect = false) :
    applyEvent kind items e = items := by
  cases e <;> first | rfl | cases h

theorem applyEvents_effects (kind : StoreKind) (items : List Passkey) (evs : List Event) :
    applyEvents kind items evs = applyEvents kind items (effects evs) := by
  induction evs generalizing items with
  | nil => rfl
  | cons e es ih =>
    unfold applyEvents effects at ih ⊢
    rw [List.filter_cons, List.foldl_cons]
    cases he : e.isEffect with
    | true => exact ih _
    | false => rw [applyEvent_noeffect _ _ _ he]; exact ih _

theorem effects_take_prefix (evs : List Event) (j : Nat) : effects (evs.take j) <+: effects evs :=
  List.IsPrefix.filter _ (List.take_prefix j evs)

theorem applyEvents_take_of_quiet (kind : StoreKind) (items : List Passkey) (evs : List Event) (j : Nat)
    (h : effects evs = []) : applyEvents kind items (evs.take j) = items := by
  have hp := effects_take_prefix evs j
  rw [h] at hp
  rw [applyEvents_effects, List.prefix_nil.mp hp]; rfl

theorem applyEvents_take_of_single (kind : StoreKind) (items : List Passkey) (evs : List Event) (j : Nat) (e : Event)
    (h : effects evs = [e]) :
    applyEvents kind items (evs.take j) = items ∨ applyEvents kind items (evs.take j) = applyEvent kind items e := by
  have hp := effects_take_prefix evs j
  rw [h] at hp
  rw [applyEvents_effects]
  rcases List.prefix_cons_iff.mp hp with h0 | ⟨t, ht, htn⟩
  · rw [h0]; exact .inl rfl
  · rw [ht, List.prefix_nil.mp htn]; exact .inr rfl

/-- an assertion writes nothing (stopped, or no counter), or its write-back is accepted, or refused -/
theorem getAssertion_effects (cfg : Cfg) (u : UvCfg) (s : Store) (req : GetReq) :
    ∀ o, o = getAssertion cfg u s req →
    (effects o.trace = [] ∧ o.store.items = s.items)
    ∨ (∃ p rest c l, (s.find (allowIds req) req.rpId).1 = .ok (p :: rest) ∧ p.counter = some c
        ∧ effects o.trace = [Event.update p.credId (some (bump c)) none]
        ∧ updateRaw s.kind s.items { p with counter := some (bump c) } = .ok l ∧ o.store.items = l)
    ∨ (∃ id ctr f, effects o.trace = [Event.update id ctr (some f)] ∧ o.store.items = s.items ∧ o.result = .error f) := by
  intro o ho
  subst ho
  rcases getAssertion_cases cfg u s req with q | ⟨p, rest, flags, hf, -, -, h⟩
  · exact .inl ⟨q.trace, q.same.items⟩
  · rw [h]
    rcases getAfterConsent_cases cfg s.tick req flags p with ⟨-, e⟩ | ⟨c, f, hc, e⟩ | ⟨c, l, hc, hl, e⟩ <;> rw [e]
    · exact .inl ⟨rfl, rfl⟩
    · exact .inr (.inr ⟨_, _, f, rfl, rfl, rfl⟩)
    · exact .inr (.inl ⟨p, rest, c, l, hf, hc, rfl, hl, rfl⟩)

theorem updateRaw_mem {kind : StoreKind} {items l : List Passkey} {p : Passkey} (hu : updateRaw kind items p = .ok l) :
    ∀ q ∈ l, q = p ∨ q ∈ items := by
  intro q hq
  unfold updateRaw at hu
  cases kind with
  | memoryMap =>
    cases hu
    rcases List.mem_append.mp hq with h | h
    · exact .inr (List.mem_filter.mp h).1
    · exact .inl (List.mem_singleton.mp h)
  | singleSlot => cases hu; exact .inl (List.mem_singleton.mp hq)
  | reference d =>
    dsimp only at hu
    split at hu
    · cases hu
      obtain ⟨r, hr, rfl⟩ := List.mem_map.mp hq
      split
      · exact .inl rfl
      · exact .inr hr
    · cases hu

theorem getAfterConsent_single (cfg : Cfg) (s : Store) (req : GetReq) (flags : UInt8) (p : Passkey) (c : Nat) (r : GetResp)
    (hitems : s.items = [p]) (hc : p.counter = some c) (h : (getAfterConsent cfg s req flags p).result = .ok r) :
    (getAfterConsent cfg s req flags p).store.items = [{ p with counter := some (bump c) }] := by
  rcases getAfterConsent_cases cfg s req flags p with ⟨hn, _⟩ | ⟨c', f, _, e⟩ | ⟨c', l, hc', hl, e⟩
  · rw [hc] at hn; cases hn
  · rw [e] at h; cases h
  · rw [hc] at hc'; cases hc'
    rw [hitems, updateRaw_single _ p { p with counter := some (bump c) } rfl] at hl
    cases hl
    rw [e]

theorem getAssertion_single (cfg : Cfg) (u : UvCfg) (s : Store) (req : GetReq) (p : Passkey) (c : Nat) (r : GetResp)
    (hitems : s.items = [p]) (hc : p.counter = some c) (h : (getAssertion cfg u s req).result = .ok r) :
    r.authData.counter = some (bump c)
      ∧ (getAssertion cfg u s req).store.items = [{ p with counter := some (bump c) }] := by
  obtain ⟨cred, rest, flags, hf, -, ha, hr, ho⟩ := getAssertion_ok h
  have hcred : cred = p := by simpa [hitems] using find_mem hf cred List.mem_cons_self
  subst hcred
  refine ⟨by rw [ha.authData, hc]; rfl, ?_⟩
  rw [ho]
  exact getAfterConsent_single cfg s.tick req flags cred c r hitems hc hr

end PasskeyVerif.Auth
