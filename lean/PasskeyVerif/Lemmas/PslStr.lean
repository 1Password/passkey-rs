/- Strings vs label lists: `rfindDot`/slicing of the Rust code against `splitDots` of the specification. -/
import PasskeyVerif.Spec.Psl
namespace PasskeyVerif.Psl
open Spec

theorem splitDots_eq_splitOn (s : Str) : splitDots s = s.splitOn dot := by
  induction s with
  | nil => rfl
  | cons c cs ih =>
    rw [splitDots, ih, List.splitOn_cons_eq_if_modifyHead]
    cases h : cs.splitOn dot with
    | nil => exact absurd h (List.splitOn_ne_nil dot cs)
    | cons l ls => by_cases hc : c = dot <;> simp [hc]

theorem joinDots_eq_intercalate (ls : List Label) : joinDots ls = [dot].intercalate ls := by
  induction ls with
  | nil => rfl
  | cons l ls ih =>
    cases ls with
    | nil => exact List.intercalate_singleton.symm
    | cons l' ls =>
      show l ++ dot :: joinDots (l' :: ls) = _
      rw [ih, List.intercalate_cons_cons, ← List.append_cons]

theorem splitDots_ne_nil (s : Str) : splitDots s ≠ [] :=
  splitDots_eq_splitOn s ▸ List.splitOn_ne_nil dot s

theorem splitDots_length_pos (s : Str) : 0 < (splitDots s).length :=
  List.length_pos_iff.mpr (splitDots_ne_nil s)

theorem splitDots_cons_ne (c : Nat) (cs : Str) (h : c ≠ dot) :
    ∃ l ls, splitDots cs = l :: ls ∧ splitDots (c :: cs) = (c :: l) :: ls := by
  cases hsp : splitDots cs with
  | nil => exact absurd hsp (splitDots_ne_nil _)
  | cons l ls => exact ⟨l, ls, rfl, by rw [splitDots, if_neg h, hsp]⟩

theorem splitDots_of_not_mem (l : Label) (h : dot ∉ l) : splitDots l = [l] :=
  (splitDots_eq_splitOn l).trans (List.splitOn_eq_singleton h)

theorem splitDots_append_dot (p q : Str) : splitDots (p ++ dot :: q) = splitDots p ++ splitDots q := by
  simp only [splitDots_eq_splitOn, List.splitOn_append_cons_self]

theorem joinDots_append (A B : List Label) (hA : A ≠ []) (hB : B ≠ []) :
    joinDots (A ++ B) = joinDots A ++ dot :: joinDots B := by
  induction A with
  | nil => exact absurd rfl hA
  | cons a as ih =>
    cases as with
    | nil => cases B with
      | nil => exact absurd rfl hB
      | cons b bs => rfl
    | cons a' as' =>
      have := ih (by simp)
      simp only [List.cons_append, joinDots] at this ⊢
      rw [this, List.append_assoc]; rfl

theorem joinDots_splitDots (s : Str) : joinDots (splitDots s) = s := by
  rw [joinDots_eq_intercalate, splitDots_eq_splitOn, List.intercalate_splitOn]

theorem splitDots_joinDots (ls : List Label) (hne : ls ≠ []) (h : ∀ l ∈ ls, dot ∉ l) :
    splitDots (joinDots ls) = ls := by
  rw [joinDots_eq_intercalate, splitDots_eq_splitOn, List.splitOn_intercalate dot h hne]

theorem not_mem_of_mem_splitDots (s : Str) : ∀ l ∈ splitDots s, dot ∉ l := by
  fun_induction splitDots s with
  | case1 => simp
  | case2 cs ih => simpa using ih
  | case3 c cs hc l ls h ih =>
    rw [h] at ih
    simp only [List.mem_cons, forall_eq_or_imp, not_or] at ih ⊢
    exact ⟨⟨Ne.symm hc, ih.1⟩, ih.2⟩
  | case4 c cs hc h ih => simp [Ne.symm hc]

theorem splitDots_length_le (s : Str) : (splitDots s).length ≤ s.length + 1 := by
  fun_induction splitDots s with
  | case1 => simp
  | case2 cs ih => simp; omega
  | case3 c cs hc l ls h ih => rw [h] at ih; simp at ih ⊢; omega
  | case4 c cs hc h ih => simp

theorem rfindDot_of_not_mem (l : Str) (h : dot ∉ l) : rfindDot l = none := by
  induction l with
  | nil => rfl
  | cons c cs ih =>
    simp only [List.mem_cons, not_or] at h
    rw [rfindDot, ih h.2]
    exact if_neg (Ne.symm h.1)

theorem rfindDot_append_dot (p l : Str) (h : dot ∉ l) : rfindDot (p ++ dot :: l) = some p.length := by
  induction p with
  | nil => simp [rfindDot, rfindDot_of_not_mem l h]
  | cons c cs ih => simp [rfindDot, ih]

theorem rfindDot_cases (s : Str) :
    (dot ∉ s ∧ rfindDot s = none) ∨ ∃ p l, dot ∉ l ∧ s = p ++ dot :: l ∧ rfindDot s = some p.length := by
  induction s with
  | nil => exact Or.inl ⟨by simp, rfl⟩
  | cons c cs ih =>
    rcases ih with ⟨h, _⟩ | ⟨p, l, hl, rfl, _⟩
    · by_cases hc : c = dot
      · exact Or.inr ⟨[], cs, h, by rw [hc]; rfl, hc ▸ rfindDot_append_dot [] cs h⟩
      · have : dot ∉ c :: cs := by simp [h, Ne.symm hc]
        exact Or.inl ⟨this, rfindDot_of_not_mem _ this⟩
    · exact Or.inr ⟨c :: p, l, hl, rfl, rfindDot_append_dot (c :: p) l hl⟩

theorem afterOrAll_le (s : Str) : afterOrAll (rfindDot s) ≤ s.length := by
  rcases rfindDot_cases s with ⟨_, hr⟩ | ⟨p, l, _, rfl, hr⟩ <;> rw [hr] <;> simp [afterOrAll]

/-- the label the loop looks up, and the labels that remain -/
theorem revLabels_step (s : Str) :
    revLabels s = s.drop (afterOrAll (rfindDot s)) ::
      (match rfindDot s with
       | some d => revLabels (s.take d)
       | none => []) := by
  unfold revLabels
  rcases rfindDot_cases s with ⟨h, hr⟩ | ⟨p, l, hl, rfl, hr⟩
  · rw [hr, splitDots_of_not_mem s h]; rfl
  · rw [hr, splitDots_append_dot, splitDots_of_not_mem l hl]
    simp [afterOrAll]

theorem lastLabels_eq (n : Nat) (s : Str) :
    lastLabels n s = joinDots ((splitDots s).drop ((splitDots s).length - n)) := rfl

theorem lastLabels_of_le (n : Nat) (s : Str) (h : (splitDots s).length ≤ n) : lastLabels n s = s := by
  rw [lastLabels_eq, show (splitDots s).length - n = 0 by omega]
  exact joinDots_splitDots s

theorem lastLabels_split (b : Nat) (s : Str) (h1 : 1 ≤ b) (h2 : b < (splitDots s).length) :
    ∃ p, s = p ++ dot :: lastLabels b s ∧
      ∀ a, 1 ≤ a → lastLabels (a + b) s = lastLabels a p ++ dot :: lastLabels b s := by
  have hnd := not_mem_of_mem_splitDots s
  have hjoin := joinDots_splitDots s
  simp only [lastLabels_eq]
  generalize splitDots s = ls at h2 hnd hjoin ⊢
  generalize hk : ls.length - b = k
  have hlen : (ls.take k).length = k := by rw [List.length_take]; omega
  have hne : ∀ i, i < k → (ls.take k).drop i ≠ [] := fun i hi e => by
    have := List.drop_eq_nil_iff.mp e; omega
  have hdrop : ls.drop k ≠ [] := fun e => by
    have := List.drop_eq_nil_iff.mp e; omega
  have htake : ls.take k ≠ [] := hne 0 (by omega)
  have hp : splitDots (joinDots (ls.take k)) = ls.take k :=
    splitDots_joinDots _ htake (fun l hl => hnd l (List.mem_of_mem_take hl))
  refine ⟨joinDots (ls.take k), ?_, fun a ha => ?_⟩
  · rw [← joinDots_append _ _ htake hdrop, List.take_append_drop, hjoin]
  · rw [hp, hlen, ← joinDots_append _ _ (hne _ (by omega)) hdrop, ← List.drop_append_of_le_length (by omega),
      List.take_append_drop, show ls.length - (a + b) = k - a by omega]

theorem lastLabels_one (s : Str) : lastLabels 1 s = s.drop (afterOrAll (rfindDot s)) := by
  rcases rfindDot_cases s with ⟨h, hr⟩ | ⟨p, l, hl, rfl, hr⟩
  · rw [hr, lastLabels_of_le 1 s (by rw [splitDots_of_not_mem s h]; exact Nat.le_refl _)]; rfl
  · rw [hr, lastLabels_eq, splitDots_append_dot, splitDots_of_not_mem l hl]
    simp [afterOrAll, joinDots]

theorem lastLabels_succ (p l : Str) (hl : dot ∉ l) (n : Nat) (hn : 1 ≤ n) :
    lastLabels (n + 1) (p ++ dot :: l) = lastLabels n p ++ dot :: l := by
  have := splitDots_length_pos p
  rw [lastLabels_eq, splitDots_append_dot, splitDots_of_not_mem l hl, List.length_append, List.length_singleton,
    Nat.add_sub_add_right, List.drop_append_of_le_length (by omega),
    joinDots_append _ _ (fun e => by have := List.drop_eq_nil_iff.mp e; omega) (List.cons_ne_nil _ _)]
  rfl

theorem splitDots_lastLabels (n : Nat) (d : Str) (h1 : 1 ≤ n) :
    splitDots (lastLabels n d) = (splitDots d).drop ((splitDots d).length - n) := by
  apply splitDots_joinDots
  · intro e
    have := List.drop_eq_nil_iff.mp e
    have := splitDots_length_pos d
    omega
  · exact fun l hl => not_mem_of_mem_splitDots d l (List.mem_of_mem_drop hl)

theorem lastLabels_labelSuffix (n : Nat) (d : Str) (h : 1 ≤ n) :
    d = lastLabels n d ∨ ∃ p, d = p ++ dot :: lastLabels n d := by
  by_cases hn : n < (splitDots d).length
  · obtain ⟨p, hp, _⟩ := lastLabels_split n d h hn
    exact Or.inr ⟨p, hp⟩
  · exact Or.inl (lastLabels_of_le n d (by omega)).symm

theorem drop_lastLabels (n : Nat) (d : Str) (h : 1 ≤ n) :
    d.drop (d.length - (lastLabels n d).length) = lastLabels n d := by
  have := lastLabels_labelSuffix n d h
  generalize lastLabels n d = x at this ⊢
  rcases this with rfl | ⟨p, rfl⟩
  · simp
  · rw [List.append_cons]
    exact List.drop_left' (by simp; omega)

/-- the three string tests of the code find exactly the names with an empty label (the empty name aside) -/
theorem hasEmptyLabel_iff (d : Str) (hne : d ≠ []) : Psl.hasEmptyLabel d = Spec.hasEmptyLabel d := by
  -- an empty label other than the first: the name ends in a dot or has two dots in a row
  have tail : ∀ s : Str, (match splitDots s with | _ :: ls => ls.any (fun l => l.isEmpty) | [] => false)
      = (s.getLast? = some dot || containsDotDot s) := by
    intro s
    induction s with
    | nil => rfl
    | cons c cs ih =>
      by_cases hc : c = dot
      · rw [splitDots, if_pos hc, hc]
        dsimp only
        cases cs with
        | nil => rfl
        | cons c2 cs2 =>
          by_cases hc2 : c2 = dot
          · simp [splitDots, hc2, containsDotDot]
          · obtain ⟨l, ls, h1, h2⟩ := splitDots_cons_ne c2 cs2 hc2
            rw [h2] at ih ⊢
            simp [List.getLast?_cons_cons, containsDotDot, hc2] at ih ⊢
            exact ih
      · obtain ⟨l, ls, h1, h2⟩ := splitDots_cons_ne c cs hc
        rw [h1] at ih
        rw [h2]
        show (ls.any fun l => l.isEmpty) = _
        rw [show (ls.any fun l => l.isEmpty) = _ from ih]
        cases cs with
        | nil => simp [containsDotDot, hc]
        | cons c2 cs2 => simp [List.getLast?_cons_cons, containsDotDot, hc]
  cases d with
  | nil => exact absurd rfl hne
  | cons c cs =>
    by_cases hc : c = dot
    · simp [Psl.hasEmptyLabel, Spec.hasEmptyLabel, splitDots, hc]
    · obtain ⟨l, ls, h1, h2⟩ := splitDots_cons_ne c cs hc
      have := tail (c :: cs)
      rw [h2] at this
      simp [Psl.hasEmptyLabel, Spec.hasEmptyLabel, h2, hc, this]

end PasskeyVerif.Psl
