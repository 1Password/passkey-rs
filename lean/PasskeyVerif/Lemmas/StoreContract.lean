/- The documented lookup contract of `CredentialStore::find_credentials` (credential_store.rs), the lemmas through
which the statements of Props/C05 use it, and the single-slot store's answer to an id list. -/
import PasskeyVerif.Lemmas.Auth
namespace PasskeyVerif.C05
open PasskeyVerif.Auth PasskeyVerif.Auth.Spec
open PasskeyVerif.AuthData (Bytes)

/-- the documented contract: exactly the stored passkeys bound to `rp` and, if a list is given, named in
it, in store order -/
def contractFound (items : List Passkey) (ids : Option (List Bytes)) (rp : Bytes) : List Passkey :=
  items.filter (fun p => p.rpId == rp && (match ids with | none => true | some l => l.any (· == p.credId)))

/-- the contract's answer: that list, or "no credentials" when it is empty -/
def contract (items : List Passkey) (ids : Option (List Bytes)) (rp : Bytes) : Except Nat (List Passkey) :=
  if (contractFound items ids rp).isEmpty then .error eNoCredentials else .ok (contractFound items ids rp)

theorem contract_of_found (kind : StoreKind) (items : List Passkey) (ids : Option (List Bytes)) (rp : Bytes)
    (h : foundRaw kind items ids rp = contractFound items ids rp) : findRaw kind items ids rp = contract items ids rp := by
  unfold findRaw contract; rw [h]

theorem mem_contractFound (items : List Passkey) (ids : Option (List Bytes)) (rp : Bytes) (p : Passkey) :
    p ∈ contractFound items ids rp ↔ p ∈ items ∧ p.rpId = rp ∧ ∀ l, ids = some l → p.credId ∈ l := by
  unfold contractFound
  rw [List.mem_filter]
  cases ids with
  | none => simp
  | some l =>
    simp only [Bool.and_eq_true, beq_iff_eq, List.any_eq_true, Option.some.injEq]
    exact ⟨fun ⟨h1, h2, x, hx, hxe⟩ => ⟨h1, h2, fun l' hl => hl ▸ hxe ▸ hx⟩,
      fun ⟨h1, h2, h3⟩ => ⟨h1, h2, p.credId, h3 l rfl, rfl⟩⟩

theorem contractFound_ne_nil (items : List Passkey) (l : List Bytes) (rp : Bytes) :
    contractFound items (some l) rp ≠ [] ↔ ∃ p ∈ items, p.rpId = rp ∧ p.credId ∈ l := by
  constructor
  · intro h
    obtain ⟨p, hp⟩ := List.exists_mem_of_ne_nil _ h
    obtain ⟨h1, h2, h3⟩ := (mem_contractFound ..).mp hp
    exact ⟨p, h1, h2, h3 l rfl⟩
  · rintro ⟨p, h1, h2, h3⟩
    exact List.ne_nil_of_mem ((mem_contractFound ..).mpr ⟨h1, h2, fun _ h => Option.some.inj h ▸ h3⟩)

theorem contract_ok (items : List Passkey) (ids : Option (List Bytes)) (rp : Bytes) (l : List Passkey) :
    contract items ids rp = .ok l ↔ l = contractFound items ids rp ∧ l ≠ [] := by
  unfold contract
  split
  · rename_i h
    rw [List.isEmpty_iff] at h
    exact ⟨fun h' => (by cases h'), fun ⟨h1, h2⟩ => absurd (h1.trans h) h2⟩
  · rename_i h
    rw [List.isEmpty_iff] at h
    exact ⟨fun hl => by cases hl; exact ⟨rfl, h⟩, fun ⟨h1, _⟩ => by rw [h1]⟩

theorem find_of_contract (s : Store) (hcontract : ∀ ids rp, findRaw s.kind s.items ids rp = contract s.items ids rp)
    (hnofault : s.fault? = none) (ids : Option (List Bytes)) (rp : Bytes) :
    (s.find ids rp).1 = contract s.items ids rp := by
  rw [find_of_nofault hnofault]; exact hcontract _ _

/-- with a store that keeps the contract and no fault at the lookup, the exclude phase finds a credential exactly when
a non-empty exclude list names a stored credential bound to the RP -/
theorem excludePhase_of_contract (s : Store) (req : MakeReq)
    (hcontract : ∀ ids rp, findRaw s.kind s.items ids rp = contract s.items ids rp) (hnofault : s.fault? = none) :
    (excludePhase s req).1 = true
      ↔ ∃ l, req.excludeList = some l ∧ l ≠ [] ∧ ∃ p ∈ s.items, p.rpId = req.rpId ∧ p.credId ∈ l := by
  unfold excludePhase
  cases hl : req.excludeList with
  | none => simp
  | some l =>
    cases l with
    | nil => simp
    | cons a as =>
      have hrhs : (∃ l', some (a :: as) = some l' ∧ l' ≠ [] ∧ ∃ p ∈ s.items, p.rpId = req.rpId ∧ p.credId ∈ l')
          ↔ contractFound s.items (some (a :: as)) req.rpId ≠ [] := by
        rw [contractFound_ne_nil]
        exact ⟨fun ⟨_, h, _, hp⟩ => by cases h; exact hp, fun hp => ⟨_, rfl, List.cons_ne_nil _ _, hp⟩⟩
      rw [hrhs]
      simp only [List.isEmpty_cons, Bool.false_eq_true, if_false, find_of_contract s hcontract hnofault, contract]
      by_cases hf : contractFound s.items (some (a :: as)) req.rpId = [] <;> simp [hf]

theorem findSome_slot (p : Passkey) (rp : Bytes) (l : List Bytes) :
    l.findSome? (fun id => (some p).filter (fun q => q.credId == id && q.rpId == rp))
      = if (p.rpId == rp && l.any (· == p.credId)) = true then some p else none := by
  induction l with
  | nil => simp
  | cons a as ih =>
    rw [List.findSome?_cons, ih]
    cases h1 : (p.credId == a) <;> cases h2 : (p.rpId == rp) <;>
      simp [Option.filter, h1, h2, show (a == p.credId) = (p.credId == a) from Bool.beq_comm]

end PasskeyVerif.C05
