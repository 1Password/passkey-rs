/- The interleaving model (Props/C19).  All calls but the save, the counter write-back and the step of a finished
registration are quiet (`Quietly`, one walk through `step`): they write nothing, make progress and leave a thread
of which the invariant of a schedule asks nothing.  On the map-like stores the two writes keep every stored id. -/
import PasskeyVerif.Lemmas.Auth
import PasskeyVerif.Model.Concurrent
namespace PasskeyVerif.Conc
open PasskeyVerif.Auth PasskeyVerif.Auth.Spec
open PasskeyVerif.AuthData (Bytes AuthData)

/-- calls a thread may still make -/
def rank : Thread → Nat
  | .getFind _ _ => 3
  | .getUv _ _ _ => 2
  | .getUpdate _ _ _ => 1
  | .mkUv _ _ _ => 5
  | .mkExclude _ _ _ => 4
  | .mkRkInfo _ _ _ => 3
  | .mkInfo _ _ _ _ _ => 2
  | .mkSave _ _ _ _ _ => 1
  | .doneGet _ => 0
  | .doneMake _ => 0

theorem rank_zero_iff_done (t : Thread) : rank t = 0 ↔ t.done = true := by cases t <;> simp [rank, Thread.done]

def present (id : Bytes) (items : List Passkey) : Bool := items.any (fun q => q.credId == id)

theorem present_iff (id : Bytes) (items : List Passkey) : present id items = true ↔ ∃ q ∈ items, q.credId = id := by
  simp [present]

theorem present_saveRaw (kind : StoreKind) (items : List Passkey) (p : Passkey) (id : Bytes) (hk : kind ≠ .singleSlot)
    (h : present id items = true) : present id (saveRaw kind items p) = true := by
  rw [present_iff] at h ⊢
  obtain ⟨q, hq, rfl⟩ := h
  rw [saveRaw_of_ne_singleSlot items p hk]
  by_cases he : q.credId = p.credId
  · exact ⟨p, by simp, he.symm⟩
  · exact ⟨q, by simp [hq, he], rfl⟩

theorem present_saveRaw_self (kind : StoreKind) (items : List Passkey) (p : Passkey) : present p.credId (saveRaw kind items p) = true := by
  cases kind <;> simp [present, saveRaw]

theorem present_updateRaw (kind : StoreKind) (items l : List Passkey) (p : Passkey) (id : Bytes) (hk : kind ≠ .singleSlot)
    (hu : updateRaw kind items p = .ok l) (h : present id items = true) : present id l = true := by
  cases kind with
  | memoryMap => cases hu; exact present_saveRaw .memoryMap items p id hk h
  | singleSlot => exact absurd rfl hk
  | reference d =>
    -- the contract store puts `p` in the place of every entry with its id
    simp only [updateRaw] at hu
    split at hu
    · cases hu
      rw [present_iff] at h ⊢
      obtain ⟨q, hq, rfl⟩ := h
      refine ⟨_, List.mem_map_of_mem hq, ?_⟩
      split
      · exact (beq_iff_eq.mp ‹_›).symm
      · rfl
    · cases hu

/-- what the invariant of a schedule asks of one thread: the credential of a finished registration is in the
store, and a registration about to save holds the passkey with the drawn id -/
def Thread.Ok (items : List Passkey) : Thread → Prop
  | .doneMake (.ok r) => ∃ a, r.authData.acd = some a ∧ present a.credId items = true
  | .mkSave _ dr _ _ pk => pk.credId = dr.credId
  | _ => True

/-- lookups, user validation, capability questions, and the step of a finished assertion -/
def Thread.asks : Thread → Bool
  | .getUpdate .. | .mkSave .. | .doneMake _ => false
  | _ => true

/-- a call that writes nothing, makes progress, and leaves a thread of which the invariant asks nothing -/
structure Quietly (s : Store) (t : Thread) (r : Store × Thread) : Prop where
  same : s.Same r.1
  progress : rank r.2 ≤ rank t - 1
  ok : ∀ items, r.2.Ok items

theorem Quietly.done {s s' : Store} {t : Thread} (h : s.Same s') (r : Except Nat GetResp) : Quietly s t (s', .doneGet r) :=
  ⟨h, Nat.zero_le _, fun _ => trivial⟩

theorem Quietly.failed {s s' : Store} {t : Thread} (h : s.Same s') (e : Nat) : Quietly s t (s', .doneMake (.error e)) :=
  ⟨h, Nat.zero_le _, fun _ => trivial⟩

/-- the furthest thread `mkAfterRk` leaves is `.mkInfo`, of rank 2: one less than `t`'s if that is at least 3 -/
theorem quietly_mkAfterRk (cfg : Cfg) {s s' : Store} {t : Thread} (h : s.Same s') (ht : 3 ≤ rank t)
    (req : MakeReq) (dr : Draws) (flags : UInt8) : Quietly s t (s', mkAfterRk cfg req dr flags) := by
  unfold mkAfterRk
  split
  · exact .failed h _
  · split
    · exact .failed h _
    · exact ⟨h, Nat.le_sub_one_of_lt ht, fun _ => trivial⟩

/-- the furthest thread `mkAfterExclude` leaves is `.mkRkInfo`, of rank 3 -/
theorem quietly_mkAfterExclude (cfg : Cfg) {s s' : Store} {t : Thread} (h : s.Same s') (ht : 4 ≤ rank t)
    (req : MakeReq) (dr : Draws) (flags : UInt8) : Quietly s t (s', mkAfterExclude cfg req dr flags) := by
  unfold mkAfterExclude
  split
  · exact .failed h _
  · split
    · exact ⟨h, Nat.le_sub_one_of_lt ht, fun _ => trivial⟩
    · exact quietly_mkAfterRk cfg h (Nat.le_of_succ_le ht) req dr flags

theorem step_quietly (cfg : Cfg) (s : Store) (t : Thread) (ht : t.asks = true) : Quietly s t (step cfg s t) := by
  have same := Store.Same.refl s
  cases t with
  | getFind req u =>
    simp only [step]
    split
    · exact .done same.tick _
    · split
      · exact .done same.tick _
      · split
        · exact .done same.tick _
        · exact ⟨same.tick, Nat.le_refl 2, fun _ => trivial⟩
  | getUv req u maybe =>
    simp only [step]
    split
    · exact .done same _
    · split
      · exact .done same _
      · split
        · exact .done same _
        · exact ⟨same, Nat.le_refl 1, fun _ => trivial⟩
  | mkUv req u dr =>
    simp only [step]
    split
    · exact .failed same _
    · split
      · exact ⟨same, Nat.le_refl 4, fun _ => trivial⟩
      · exact quietly_mkAfterExclude cfg same (by simp [rank]) req dr _
  | mkExclude req dr flags =>
    simp only [step]
    split
    · exact .failed (excludePhase_same s req) _
    · exact quietly_mkAfterExclude cfg (excludePhase_same s req) (by simp [rank]) req dr flags
  | mkRkInfo req dr flags =>
    simp only [step]
    split
    · exact .failed (rkPhase_same s req) _
    · exact quietly_mkAfterRk cfg (rkPhase_same s req) (by simp [rank]) req dr flags
  | mkInfo req dr flags prfOut stored => exact ⟨same.tick, Nat.le_refl 1, fun _ => rfl⟩
  | doneGet r => exact .done same r
  | getUpdate req flags cred => cases ht
  | mkSave req dr flags prfOut pk => cases ht
  | doneMake r => cases ht

/-- no call of one ceremony waits for another (a finished thread stays as it is) -/
theorem step_rank (cfg : Cfg) (s : Store) (t : Thread) : rank (step cfg s t).2 ≤ rank t - 1 := by
  cases t with
  | getUpdate req flags cred => exact Nat.le_refl 0
  | mkSave req dr flags prfOut pk => simp only [step]; split <;> exact Nat.le_refl 0
  | doneMake r => exact Nat.le_refl 0
  | _ => exact (step_quietly cfg s _ rfl).progress

theorem runSched_length (cfg : Cfg) (s : Store) (ts : List Thread) (sched : List Nat) :
    (runSched cfg s ts sched).2.length = ts.length := by
  induction sched generalizing s ts with
  | nil => rfl
  | cons j rest ih =>
    unfold runSched
    cases h : ts[j]? with
    | none => exact ih s ts
    | some t => simp only; rw [ih]; simp

theorem runSched_rank (cfg : Cfg) (s : Store) (ts : List Thread) (sched : List Nat) (i : Nat) (t : Thread)
    (h : ts[i]? = some t) :
    ∃ t', (runSched cfg s ts sched).2[i]? = some t' ∧ rank t' ≤ rank t - sched.count i := by
  induction sched generalizing s ts t with
  | nil => exact ⟨t, h, by simp⟩
  | cons j rest ih =>
    unfold runSched
    by_cases hji : j = i
    · subst hji
      rw [h, List.count_cons_self]
      obtain ⟨t', h1, h2⟩ := ih (step cfg s t).1 (ts.set j (step cfg s t).2) (step cfg s t).2
        (by simp [(List.getElem?_eq_some_iff.mp h).1])
      have := step_rank cfg s t
      exact ⟨t', h1, by omega⟩
    · rw [List.count_cons_of_ne hji]
      cases hj : ts[j]? with
      | none => exact ih s ts t h
      | some tj => exact ih _ _ t (by rw [List.getElem?_set_ne hji]; exact h)

/-- a call writes nothing, or it is the accepted save of a registration or the accepted counter write-back of
an assertion -/
theorem step_store (cfg : Cfg) (s : Store) (t : Thread) :
    s.Same (step cfg s t).1
    ∨ (∃ pk, (step cfg s t).1 = { s.tick with items := saveRaw s.kind s.items pk })
    ∨ (∃ p l, updateRaw s.kind s.items p = .ok l ∧ (step cfg s t).1 = { s.tick with items := l }) := by
  have same := Store.Same.refl s
  cases t with
  | getUpdate req flags cred =>
    simp only [step]
    rcases getAfterConsent_cases cfg s req flags cred with ⟨-, h⟩ | ⟨c, f, -, h⟩ | ⟨c, l, -, hl, h⟩ <;> rw [h]
    · exact .inl same
    · exact .inl same.tick
    · exact .inr (.inr ⟨_, l, hl, rfl⟩)
  | mkSave req dr flags prfOut pk =>
    simp only [step, Store.save]
    cases s.fault? with
    | some e => exact .inl same.tick
    | none => exact .inr (.inl ⟨pk, rfl⟩)
  | doneMake r => exact .inl same
  | _ => exact .inl (step_quietly cfg s _ rfl).same

theorem step_kind (cfg : Cfg) (s : Store) (t : Thread) : (step cfg s t).1.kind = s.kind := by
  rcases step_store cfg s t with h | ⟨_, h⟩ | ⟨_, _, -, h⟩
  · exact h.kind
  · rw [h]; rfl
  · rw [h]; rfl

theorem step_present (cfg : Cfg) (s : Store) (t : Thread) (id : Bytes) (hk : s.kind ≠ .singleSlot)
    (h : present id s.items = true) : present id (step cfg s t).1.items = true := by
  rcases step_store cfg s t with h' | ⟨pk, h'⟩ | ⟨p, l, hu, h'⟩
  · rw [h'.items]; exact h
  · rw [h']; exact present_saveRaw s.kind s.items pk id hk h
  · rw [h']; exact present_updateRaw s.kind s.items l p id hk hu h

def Inv (s : Store) (ts : List Thread) : Prop := ∀ t ∈ ts, t.Ok s.items

theorem inv_of_started (s : Store) (ts : List Thread)
    (h : ∀ t ∈ ts, (∃ req u, t = startGet req u) ∨ (∃ req u dr, t = startMake req u dr)) : Inv s ts := by
  intro t ht
  rcases h t ht with ⟨req, u, rfl⟩ | ⟨req, u, dr, rfl⟩
  · trivial
  · unfold startMake
    split
    · trivial
    · split <;> trivial

theorem step_ok_self (cfg : Cfg) (s : Store) (t : Thread) (h : t.Ok s.items) : (step cfg s t).2.Ok (step cfg s t).1.items := by
  cases t with
  | getUpdate req flags cred => trivial
  | mkSave req dr flags prfOut pk =>
    simp only [step, Store.save]
    cases s.fault? with
    | some e => trivial
    | none =>
      -- the credential id attested in the response is the drawn one, which is the id of the passkey just saved
      refine ⟨⟨cfg.aaguid, dr.credId, coseKeyBytes dr.key⟩, rfl, ?_⟩
      rw [← (h : pk.credId = dr.credId)]; exact present_saveRaw_self s.kind s.items pk
  | doneMake r => exact h
  | _ => exact (step_quietly cfg s _ rfl).ok _

theorem Thread.Ok.mono {items items' : List Passkey} {t : Thread} (h : t.Ok items)
    (hp : ∀ id, present id items = true → present id items' = true) : t.Ok items' := by
  cases t with
  | doneMake r =>
    cases r with
    | ok r => obtain ⟨a, ha, hpa⟩ := h; exact ⟨a, ha, hp _ hpa⟩
    | error e => trivial
  | mkSave req dr flags prfOut pk => exact h
  | _ => trivial

theorem step_inv (cfg : Cfg) (s : Store) (ts : List Thread) (j : Nat) (tj : Thread) (hk : s.kind ≠ .singleSlot)
    (hj : ts[j]? = some tj) (hinv : Inv s ts) : Inv (step cfg s tj).1 (ts.set j (step cfg s tj).2) := by
  intro t ht
  rcases List.mem_or_eq_of_mem_set ht with hmem | heq
  · exact (hinv t hmem).mono (fun id => step_present cfg s tj id hk)
  · rw [heq]; exact step_ok_self cfg s tj (hinv tj (List.mem_of_getElem? hj))

theorem runSched_inv (cfg : Cfg) (s : Store) (ts : List Thread) (sched : List Nat) (hk : s.kind ≠ .singleSlot)
    (hinv : Inv s ts) : Inv (runSched cfg s ts sched).1 (runSched cfg s ts sched).2 := by
  induction sched generalizing s ts with
  | nil => exact hinv
  | cons j rest ih =>
    unfold runSched
    cases hj : ts[j]? with
    | none => exact ih s ts hk hinv
    | some tj =>
      simp only
      exact ih _ _ (by rw [step_kind]; exact hk) (step_inv cfg s ts j tj hk hj hinv)

end PasskeyVerif.Conc
