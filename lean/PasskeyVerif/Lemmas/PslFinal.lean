/-
Putting the pieces together: over a table that is a trie (`Dec`), `public_suffix` returns the labels the
PSL algorithm gives over the trie's rules; `effective_tld_plus_one` and `is_effective_tld` on top of it.
-/
import PasskeyVerif.Lemmas.PslDecode
namespace PasskeyVerif.Psl
open Spec

/-- the fix-up after the loop (`if suffix == domain.len()`) changes nothing when the loop has found the
last `n` labels: if they make up the empty string, the name is empty or ends in a dot -/
theorem fixup_lastLabels (n : Nat) (d : Str) (h : 1 ≤ n) :
    (if d.length - (lastLabels n d).length = d.length then afterOrAll (rfindDot d)
      else d.length - (lastLabels n d).length) = d.length - (lastLabels n d).length := by
  split
  · rename_i he
    rw [he]
    have hs := lastLabels_labelSuffix n d h
    have hnil : lastLabels n d = [] := List.eq_nil_of_length_eq_zero (by
      have := congrArg List.length (drop_lastLabels n d h)
      rw [List.length_drop] at this; omega)
    rw [hnil] at hs
    rcases hs with hd | ⟨p, hd⟩ <;> rw [hd]
    · rfl
    · rw [rfindDot_append_dot p [] (by simp)]; simp [afterOrAll]
  · rfl

/-- where the slice returned by `public_suffix` starts: at the last `n` labels, `n` the number of
labels the PSL algorithm gives (at least one, at most all) -/
theorem start_of_dec {t : Table} {f : Forest} (hD : Dec t true 0 t.numTld f) (d : Str) :
    1 ≤ suffixLabels f.rules (revLabels d) ∧ suffixLabels f.rules (revLabels d) ≤ (splitDots d).length
    ∧ publicSuffixStart t d = some (d.length - (lastLabels (suffixLabels f.rules (revLabels d)) d).length) := by
  have hlen : (revLabels d).length = (splitDots d).length := List.length_reverse
  unfold publicSuffixStart
  rw [walk_eq_walkO t _ d 0 t.numTld d.length false f true hD (by have := splitDots_length_le d; omega),
    suffixLabels_rules f hD.wf]
  cases hw : walkO f false (revLabels d) with
  | none =>
    refine ⟨Nat.le_refl _, splitDots_length_pos d, ?_⟩
    simp only [posOf, if_true, Option.getD_none]
    rw [if_pos (afterOrAll_le d), ← posOf_one d 0]
    rfl
  | some j =>
    cases j with
    | zero =>
      -- impossible: no exception node among the TLDs
      exfalso
      rw [revLabels_step] at hw
      unfold walkO at hw
      dsimp only at hw
      rcases hD.find (d.drop (afterOrAll (rfindDot d))) with ⟨hn, _⟩ | ⟨_, _, _, ty, _, _, hlk, _, _, _, htop⟩
      · rw [hn] at hw; cases hw
      · rw [hlk] at hw
        dsimp only at hw
        have := htop rfl
        cases hk : kindOf t ty <;> rw [hk] at hw this <;> dsimp only at hw
        · split at hw <;> cases hw
        · exact this rfl
        · split at hw <;> cases hw
    | succ j =>
      refine ⟨Nat.succ_le_succ (Nat.zero_le _), hlen ▸ walkO_le f false _ _ hw, ?_⟩
      rw [show posOf d d.length (some (j + 1)) = d.length - (lastLabels (j + 1) d).length from rfl]
      dsimp only [Option.getD_some]
      rw [fixup_lastLabels (j + 1) d (by omega), if_pos (Nat.sub_le _ _)]

theorem publicSuffix_of_start {t : Table} {d : Str} {n : Nat} (h1 : 1 ≤ n)
    (h : publicSuffixStart t d = some (d.length - (lastLabels n d).length)) :
    publicSuffix t d = some (lastLabels n d) := by
  rw [publicSuffix, h, Option.map_some, drop_lastLabels n d h1]

/-- what `effective_tld_plus_one` returns for a name whose public suffix is its last `n` labels -/
def etld1Of (n : Nat) (d : Str) : Except Error Str :=
  if d ≠ [] ∧ Spec.hasEmptyLabel d = true then .error .emptyLabel
  else if (splitDots d).length ≤ n then .error .cannotDeriveETldPlus1
  else .ok (lastLabels (n + 1) d)

theorem etld1_of_start {t : Table} {d : Str} {n : Nat} (h1 : 1 ≤ n)
    (h : publicSuffixStart t d = some (d.length - (lastLabels n d).length)) :
    effectiveTldPlusOne t d = some (etld1Of n d) := by
  unfold effectiveTldPlusOne etld1Of
  by_cases hd : d = []
  · subst hd
    rw [h]
    have : (splitDots ([] : Str)).length ≤ n := h1
    simp [Psl.hasEmptyLabel, containsDotDot, this]
  · rw [hasEmptyLabel_iff d hd]
    by_cases he : Spec.hasEmptyLabel d = true
    · rw [if_pos he, if_pos ⟨hd, he⟩]
    · rw [if_neg he, if_neg (fun h => he h.2), h]
      dsimp only
      by_cases hL : (splitDots d).length ≤ n
      · rw [if_pos hL, lastLabels_of_le n d hL, if_pos (by omega)]
      · -- `d = p ++ "." ++ suffix`: the dot is at `p.length`, and the eTLD+1 is the last label of `p` onwards
        obtain ⟨p, hp, hadd⟩ := lastLabels_split n d h1 (by omega)
        rw [if_neg hL, Nat.add_comm n 1, hadd 1 (Nat.le_refl _), lastLabels_one]
        generalize lastLabels n d = x at hp ⊢
        subst hp
        have hi : (p ++ dot :: x).length - ((p ++ dot :: x).length - ((p ++ dot :: x).length - x.length)) - 1
            = p.length := by simp; omega
        rw [hi, if_neg (by simp; omega)]
        simp [List.take_left', List.drop_append_of_le_length (afterOrAll_le p)]

theorem etldPlusOneOk_etld1Of (R : List Rule) (d : Str) (h1 : 1 ≤ suffixLabels R (revLabels d)) :
    Spec.etldPlusOneOk R d (etld1Of (suffixLabels R (revLabels d)) d) = true := by
  unfold Spec.etldPlusOneOk etld1Of
  by_cases hd : d = []
  · subst hd
    have : (splitDots ([] : Str)).length ≤ suffixLabels R (revLabels []) := h1
    simp [this]
  · by_cases he : Spec.hasEmptyLabel d = true
    · simp [he, hd]
    · by_cases hL : (splitDots d).length ≤ suffixLabels R (revLabels d) <;> simp [he, hL]

end PasskeyVerif.Psl
