/- The value-level client-data model (Model/ClientDataJson.lean): `IndexMap::insert` over a member list, what an accepted
document is re-serialised to, and the fixed point. -/
import PasskeyVerif.Model.ClientDataJson
namespace PasskeyVerif.ClientDataJson
open PasskeyVerif.Json

theorem keys_indexInsert (m : Members) (k : String) (v : Json) :
    (indexInsert m k v).map (·.1) = if m.any (·.1 == k) then m.map (·.1) else m.map (·.1) ++ [k] := by
  unfold indexInsert
  split
  · rw [List.map_map]
    apply List.map_congr_left
    intro p _
    by_cases hk : p.1 = k <;> simp [hk]
  · simp

theorem foldl_indexInsert_names (P : String → Prop) (l acc : Members) (hl : ∀ p ∈ l, P p.1)
    (hacc : (acc.map (·.1)).Nodup ∧ ∀ k ∈ acc.map (·.1), P k) :
    ((l.foldl (fun m p => indexInsert m p.1 p.2) acc).map (·.1)).Nodup
      ∧ ∀ k ∈ (l.foldl (fun m p => indexInsert m p.1 p.2) acc).map (·.1), P k := by
  induction l generalizing acc with
  | nil => exact hacc
  | cons p l ih =>
    refine ih _ (fun q hq => hl q (List.mem_cons_of_mem _ hq)) ?_
    rw [keys_indexInsert]
    split
    · exact hacc
    · rename_i hno
      refine ⟨List.nodup_append.mpr ⟨hacc.1, by simp, ?_⟩, ?_⟩
      · intro a ha b hb hab
        rw [List.mem_singleton.mp hb] at hab
        obtain ⟨q, hq, rfl⟩ := List.mem_map.mp ha
        exact hno (List.any_eq_true.mpr ⟨q, hq, by simp [hab]⟩)
      · intro k hk
        rcases List.mem_append.mp hk with hk | hk
        · exact hacc.2 k hk
        · rw [List.mem_singleton.mp hk]; exact hl p List.mem_cons_self

theorem foldl_indexInsert_nodup (l acc : Members) (h : ((acc ++ l).map (·.1)).Nodup) :
    l.foldl (fun m p => indexInsert m p.1 p.2) acc = acc ++ l := by
  induction l generalizing acc with
  | nil => simp
  | cons p l ih =>
    have hnot : (acc.any fun q => q.1 == p.1) = false := by
      rw [List.map_append, List.map_cons, List.nodup_append] at h
      exact List.any_eq_false.mpr fun q hq hqk => h.2.2 q.1 (List.mem_map.mpr ⟨q, hq, rfl⟩) p.1 (by simp) (by simpa using hqk)
    rw [List.foldl_cons, indexInsert, hnot, ih]
    · simp
    · simpa using h

theorem collectUnknown_names (ms : Members) :
    ((collectUnknown ms).map (·.1)).Nodup ∧ ∀ q ∈ collectUnknown ms, isFixed q.1 = false := by
  have h := foldl_indexInsert_names (fun k => isFixed k = false) (ms.filter (fun p => !isFixed p.1)) []
    (fun p hp => by simpa using (List.mem_filter.mp hp).2) ⟨by simp, by simp⟩
  exact ⟨h.1, fun q hq => h.2 q.1 (List.mem_map.mpr ⟨q, hq, rfl⟩)⟩

theorem collectUnknown_nodup (ms : Members) (h : (ms.map (·.1)).Nodup) :
    collectUnknown ms = ms.filter (fun p => !isFixed p.1) := by
  unfold collectUnknown
  rw [foldl_indexInsert_nodup _ _ (by simpa using List.Nodup.sublist (List.Sublist.map _ List.filter_sublist) h)]
  simp

theorem reser_eq (ms out : Members) (h : reser ms = some out) :
    ∃ ty ch orig b, clientDataTypes.contains ty = true
      ∧ lookup ms "type" = some (.str ty) ∧ lookup ms "challenge" = some (.str ch) ∧ lookup ms "origin" = some (.str orig)
      ∧ (b = true ↔ lookup ms "crossOrigin" = some (.bool true))
      ∧ out = [("type", .str ty), ("challenge", .str ch), ("origin", .str orig), ("crossOrigin", .bool b)] ++ collectUnknown ms := by
  unfold reser parseClientData at h
  split at h
  · cases h
  split at h
  next ty ch orig h1 h2 h3 =>
    split at h
    · cases h
    next hty =>
      have hty : clientDataTypes.contains ty = true := by simpa using hty
      -- `crossOrigin`: absent or `null` is `None` and is written as `false`; a boolean is itself; anything else is refused
      split at h
      next hco =>
        cases Option.some.inj h
        exact ⟨ty, ch, orig, false, hty, h1, h2, h3, by simp [hco], rfl⟩
      next hco =>
        cases Option.some.inj h
        exact ⟨ty, ch, orig, false, hty, h1, h2, h3, by simp [hco], rfl⟩
      next b hco =>
        cases Option.some.inj h
        exact ⟨ty, ch, orig, some b == some true, hty, h1, h2, h3, by cases b <;> simp [hco], rfl⟩
      next => cases h
  · cases h

theorem reser_fixed (ty ch orig : String) (b : Bool) (U : Members) (hty : clientDataTypes.contains ty = true)
    (hu : ∀ q ∈ U, isFixed q.1 = false) (hn : (U.map (·.1)).Nodup) :
    reser ([("type", .str ty), ("challenge", .str ch), ("origin", .str orig), ("crossOrigin", .bool b)] ++ U)
      = some ([("type", .str ty), ("challenge", .str ch), ("origin", .str orig), ("crossOrigin", .bool b)] ++ U) := by
  generalize hL : [("type", Json.str ty), ("challenge", .str ch), ("origin", .str orig), ("crossOrigin", .bool b)] ++ U = L
  -- a fixed name is not found among `U`, so it occurs once in `L`: in front, where `lookup` finds it
  have hk : ∀ k, isFixed k = true → U.filter (fun p => p.1 == k) = [] := fun k hk =>
    List.filter_eq_nil_iff.mpr fun q hq hc => by rw [← beq_iff_eq.mp hc, hu q hq] at hk; cases hk
  have hdup : (fixedKeys.any fun k => decide (countKey L k > 1)) = false := by
    subst hL
    simp [fixedKeys, countKey, List.filter_cons, hk "type" (by decide), hk "challenge" (by decide), hk "origin" (by decide),
      hk "crossOrigin" (by decide)]
  have hl : lookup L "type" = some (.str ty) ∧ lookup L "challenge" = some (.str ch) ∧ lookup L "origin" = some (.str orig)
      ∧ lookup L "crossOrigin" = some (.bool b) := by
    subst hL
    simp [lookup]
  -- and the other members are collected as they are
  have hcu : collectUnknown L = U := by
    have hU : U.filter (fun q => !isFixed q.1) = U := List.filter_eq_self.mpr fun q hq => by simp [hu q hq]
    subst hL
    unfold collectUnknown
    rw [List.filter_append, hU, show List.filter _ _ = [] from rfl, foldl_indexInsert_nodup _ _ (by simpa using hn)]
    rfl
  unfold reser parseClientData
  rw [hdup, hl.1, hl.2.1, hl.2.2.1, hl.2.2.2, hcu]
  simp only [hty, Bool.not_true, Bool.false_eq_true, if_false, Option.map_some, serialiseClientData, ← hL]
  cases b <;> rfl

end PasskeyVerif.ClientDataJson
