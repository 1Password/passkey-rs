/- The list combinators of Model/SerdeStruct.lean, and `parseTy` on a binary and on an optional member. -/
import PasskeyVerif.Model.SerdeStruct
namespace PasskeyVerif.Serde
open PasskeyVerif.Json

/-- members are read one after the other: what stands before a stretch of members does not change how it is read -/
theorem memberList_append_congr (sd : StructDef) (p : Field → Json → R Val) (l₂ l₂' : List (String × Json))
    (h : ∀ seen, memberList sd p l₂ seen = memberList sd p l₂' seen) (l₁ : List (String × Json)) (seen : List (String × Val)) :
    memberList sd p (l₁ ++ l₂) seen = memberList sd p (l₁ ++ l₂') seen := by
  fun_induction memberList sd p l₁ seen with
  | case1 seen => exact h seen
  | case2 k j rest seen hf ih => simpa only [List.cons_append, memberList, hf] using ih
  | case3 k j rest seen f hf hs => simp only [List.cons_append, memberList, hf, hs, if_true]
  | case4 k j rest seen f hf hs v hp ih => simpa only [List.cons_append, memberList, hf, hs, hp, Bool.false_eq_true, if_false] using ih
  | case5 k j rest seen f hf hs hp => simp only [List.cons_append, memberList, hf, hs, hp, Bool.false_eq_true, if_false]
  | case6 k j rest seen f hf hs hp => simp only [List.cons_append, memberList, hf, hs, hp, Bool.false_eq_true, if_false]

theorem lenientList_append_congr (p : Json → R Val) (l₂ l₂' : List Json) (h : lenientList p l₂ = lenientList p l₂') :
    ∀ l₁ : List Json, lenientList p (l₁ ++ l₂) = lenientList p (l₁ ++ l₂')
  | [] => h
  | j :: l₁ => by
    simp only [List.cons_append, lenientList, lenientList_append_congr p l₂ l₂' h l₁]

theorem lenientList_congr (p : Json → R Val) (j j' : Json) (h : p j = p j') :
    ∀ (l₁ l₂ : List Json), lenientList p (l₁ ++ j :: l₂) = lenientList p (l₁ ++ j' :: l₂) :=
  fun l₁ l₂ => lenientList_append_congr p _ _ (by simp only [lenientList, h]) l₁

theorem lenientList_eq (p : Json → R Val) (l : List Json) (h : ∀ j ∈ l, p j ≠ .unmodelled) :
    lenientList p l = .ok (l.filterMap (fun j => match p j with | .ok v => some v | _ => none)) := by
  fun_induction lenientList p l with
  | case1 => rfl
  | case2 j js v hp ih => simp only [List.filterMap_cons, hp, ih fun x hx => h x (List.mem_cons_of_mem _ hx), R.map]
  | case3 j js hp ih => simp only [List.filterMap_cons, hp, ih fun x hx => h x (List.mem_cons_of_mem _ hx)]
  | case4 j js hp => exact absurd hp (h j List.mem_cons_self)

theorem parseTy_bytes_congr (S : Schema) (kA : Int → Bool) (fuel : Nat) (b : Bool) {j j' : Json} (h : WJson.bytesOf j = WJson.bytesOf j') :
    parseTy S kA fuel b .bytes j = parseTy S kA fuel b .bytes j' := by
  cases fuel <;> simp only [parseTy, h]

theorem parseTy_opt (S : Schema) (kA : Int → Bool) (fuel : Nat) (b : Bool) (t : Ty) {j : Json} (hn : j ≠ .null) :
    parseTy S kA (fuel + 1) b (.opt t) j = (parseTy S kA fuel b t j).map .some := by
  cases j <;> first | exact absurd rfl hn | rfl

end PasskeyVerif.Serde
