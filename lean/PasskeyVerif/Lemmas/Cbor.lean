/-
CBOR (RFC 8949, definite lengths, shortest heads): the reader of Base/Cbor.lean inverts the writer on
well-formed items, whatever follows the item, answers from the bytes it consumed alone, and so accepts no proper
prefix of an encoding.  Base of the CBOR interface of Props/C12 and of the CBOR clauses of C02, C13 and C15.
-/
import PasskeyVerif.Base.Cbor
namespace PasskeyVerif.Cbor

theorem beBytes_length (w n : Nat) : (beBytes w n).length = w := by simp [beBytes]

theorem beBytes_succ (w n : Nat) : beBytes (w + 1) n = beBytes w (n / 256) ++ [UInt8.ofNat (n % 256)] := by
  simp only [beBytes, List.range_succ, List.map_append, List.map_cons, List.map_nil]
  congr 1
  · apply List.map_congr_left
    intro i hi
    have hi := List.mem_range.mp hi
    rw [show 8 * (w + 1 - 1 - i) = 8 + 8 * (w - 1 - i) by omega, Nat.shiftRight_add, Nat.shiftRight_eq_div_pow n 8]
  · simp

theorem ofBe_concat (bs : Bytes) (b : UInt8) : ofBe (bs ++ [b]) = ofBe bs * 256 + b.toNat := by
  simp [ofBe]

theorem ofBe_beBytes_mod (w : Nat) : ∀ n, ofBe (beBytes w n) = n % 256 ^ w := by
  induction w with
  | zero => intro n; simp [beBytes, ofBe, Nat.mod_one]
  | succ w ih =>
    intro n
    rw [beBytes_succ, ofBe_concat, ih, UInt8.toNat_ofNat', Nat.mod_mod_of_dvd _ (by decide : 256 ∣ 2 ^ 8),
      Nat.pow_succ', Nat.mod_mul]
    omega

theorem ofBe_beBytes (w n : Nat) (h : n < 256 ^ w) : ofBe (beBytes w n) = n := by
  rw [ofBe_beBytes_mod, Nat.mod_eq_of_lt h]

/-- additional-information value of the shortest head for argument `n` -/
def aiOf (n : Nat) : Nat :=
  if n < 24 then n else if n < 256 then 24 else if n < 65536 then 25 else if n < 4294967296 then 26 else 27

/-- number of argument bytes announced by the additional information `ai` -/
def argLen (ai : Nat) : Nat := if ai = 24 then 1 else if ai = 25 then 2 else if ai = 26 then 4 else if ai = 27 then 8 else 0

def two64 : Nat := 18446744073709551616

theorem readHead_cons (b : UInt8) (t : Bytes) :
    readHead (b :: t) =
      if b.toNat % 32 < 24 then some (b.toNat / 32, b.toNat % 32, b.toNat % 32, t)
      else if argLen (b.toNat % 32) = 0 then none
      else if t.length < argLen (b.toNat % 32) then none
      else some (b.toNat / 32, b.toNat % 32, ofBe (t.take (argLen (b.toNat % 32))), t.drop (argLen (b.toNat % 32))) := rfl

theorem byte_parts (m a : Nat) (hm : m ≤ 7) (ha : a < 32) :
    (UInt8.ofNat (m * 32 + a)).toNat / 32 = m ∧ (UInt8.ofNat (m * 32 + a)).toNat % 32 = a := by
  have : (UInt8.ofNat (m * 32 + a)).toNat = m * 32 + a := by
    rw [UInt8.toNat_ofNat']; omega
  rw [this]; omega

theorem readHead_arg (m a n : Nat) (rest : Bytes) (hm : m ≤ 7) (ha : 24 ≤ a) (ha' : a < 28) (hn : n < 256 ^ argLen a) :
    readHead (UInt8.ofNat (m * 32 + a) :: (beBytes (argLen a) n ++ rest)) = some (m, a, n, rest) := by
  obtain ⟨e1, e2⟩ := byte_parts m a hm (by omega)
  have hl := beBytes_length (argLen a) n
  have h0 : argLen a ≠ 0 := by
    have : a = 24 ∨ a = 25 ∨ a = 26 ∨ a = 27 := by omega
    rcases this with rfl | rfl | rfl | rfl <;> decide
  rw [readHead_cons, e1, e2, if_neg (by omega), if_neg h0, if_neg (by simp [hl]), List.take_left' hl, List.drop_left' hl,
    ofBe_beBytes _ _ hn]

theorem readHead_head' (m n : Nat) (p' : Bytes) (hm : m ≤ 7) (hn : n < two64) : readHead (head m n ++ p') = some (m, aiOf n, n, p') := by
  unfold two64 at hn
  unfold head aiOf
  dsimp only
  split
  · obtain ⟨e1, e2⟩ := byte_parts m n hm (by omega)
    rw [List.cons_append, List.nil_append, readHead_cons, e1, e2, if_pos ‹_›]
  · split
    · exact readHead_arg m 24 n p' hm (by decide) (by decide) ‹_›
    · split
      · exact readHead_arg m 25 n p' hm (by decide) (by decide) ‹_›
      · split
        · exact readHead_arg m 26 n p' hm (by decide) (by decide) ‹_›
        · exact readHead_arg m 27 n p' hm (by decide) (by decide) hn

theorem readHead_reads {bs : Bytes} {m ai n : Nat} {rest : Bytes} (h : readHead bs = some (m, ai, n, rest)) :
    ∃ c, bs = c ++ rest ∧ 1 ≤ c.length ∧ ∀ q, readHead (c ++ q) = some (m, ai, n, q) := by
  cases bs with
  | nil => cases h
  | cons b t =>
    rw [readHead_cons] at h
    split at h
    · cases h
      exact ⟨[b], rfl, Nat.le_refl _, fun q => by rw [List.singleton_append, readHead_cons, if_pos ‹_›]⟩
    · split at h
      · cases h
      · split at h
        · cases h
        · cases h
          refine ⟨b :: t.take (argLen (b.toNat % 32)), by simp, by simp, fun q => ?_⟩
          have hl : (t.take (argLen (b.toNat % 32))).length = argLen (b.toNat % 32) := by simp; omega
          rw [List.cons_append, readHead_cons, if_neg ‹_›, if_neg ‹_›, if_neg (by simp; omega), List.take_left' hl, List.drop_left' hl]

mutual
  /-- items the writer encodes faithfully: arguments and lengths below 2^64, assigned simple values, floats of a legal width -/
  def Item.WF : Item → Bool
    | .uint n => n < two64
    | .nint n => n < two64
    | .bytes b => b.length < two64
    | .text b => b.length < two64
    | .array xs => xs.length < two64 && wfList xs
    | .map kvs => kvs.length < two64 && wfPairs kvs
    | .tag t x => t < two64 && x.WF
    | .simple v => v < 24 || (32 ≤ v && v < 256)
    | .float w bits => (w == 2 && bits < 65536) || (w == 4 && bits < 4294967296) || (w == 8 && bits < two64)
  def wfList : List Item → Bool
    | [] => true
    | x :: xs => x.WF && wfList xs
  def wfPairs : List (Item × Item) → Bool
    | [] => true
    | (k, v) :: kvs => k.WF && v.WF && wfPairs kvs
end

mutual
  /-- fuel the reader needs for an item: fuel is handed down to each part, not used up along a list, so the parts of a
  list need the largest of their costs and one unit per element passed -/
  def Item.cost : Item → Nat
    | .array xs => 1 + costList xs
    | .map kvs => 1 + costPairs kvs
    | .tag _ x => 1 + x.cost
    | _ => 1
  def costList : List Item → Nat
    | [] => 0
    | x :: xs => 1 + max x.cost (costList xs)
  def costPairs : List (Item × Item) → Nat
    | [] => 0
    | (k, v) :: kvs => 1 + max (max k.cost v.cost) (costPairs kvs)
end

theorem take_drop_append (b rest : Bytes) : (b ++ rest).take b.length = b ∧ (b ++ rest).drop b.length = rest := by simp

mutual
  theorem decode_encode : ∀ (x : Item), x.WF = true → ∀ fuel, x.cost ≤ fuel → ∀ rest, decode fuel (encode x ++ rest) = some (x, rest)
    | x, _, 0, hf, _ => by cases x <;> simp [Item.cost] at hf
    | .uint n, h, f + 1, _, rest => by
      simp only [Item.WF, decide_eq_true_eq] at h
      simp only [encode, decode, readHead_head' 0 n rest (by omega) h]
    | .nint n, h, f + 1, _, rest => by
      simp only [Item.WF, decide_eq_true_eq] at h
      simp only [encode, decode, readHead_head' 1 n rest (by omega) h]
    | .bytes b, h, f + 1, _, rest => by
      simp only [Item.WF, decide_eq_true_eq] at h
      simp only [encode, decode, List.append_assoc, readHead_head' 2 b.length (b ++ rest) (by omega) h]
      simp
    | .text b, h, f + 1, _, rest => by
      simp only [Item.WF, decide_eq_true_eq] at h
      simp only [encode, decode, List.append_assoc, readHead_head' 3 b.length (b ++ rest) (by omega) h]
      simp
    | .array xs, h, f + 1, hf, rest => by
      simp only [Item.WF, Bool.and_eq_true, decide_eq_true_eq] at h
      simp only [Item.cost] at hf
      simp only [encode, decode, List.append_assoc, readHead_head' 4 xs.length (encodeList xs ++ rest) (by omega) h.1]
      rw [decodeList_encode xs h.2 f (by omega) rest]
    | .map kvs, h, f + 1, hf, rest => by
      simp only [Item.WF, Bool.and_eq_true, decide_eq_true_eq] at h
      simp only [Item.cost] at hf
      simp only [encode, decode, List.append_assoc, readHead_head' 5 kvs.length (encodePairs kvs ++ rest) (by omega) h.1]
      rw [decodePairs_encode kvs h.2 f (by omega) rest]
    | .tag t x, h, f + 1, hf, rest => by
      simp only [Item.WF, Bool.and_eq_true, decide_eq_true_eq] at h
      simp only [Item.cost] at hf
      simp only [encode, decode, List.append_assoc, readHead_head' 6 t (encode x ++ rest) (by omega) h.1]
      rw [decode_encode x h.2 f (by omega) rest]
    | .simple v, h, f + 1, _, rest => by
      simp only [Item.WF, Bool.or_eq_true, Bool.and_eq_true, decide_eq_true_eq] at h
      simp only [encode, decode, readHead_head' 7 v rest (by omega) (show v < two64 by unfold two64; omega)]
      unfold aiOf
      rcases h with h | h
      · simp [h]
      · simp [show ¬ v < 24 by omega, h.2, show ¬ v < 32 by omega]
    | .float w bits, h, f + 1, _, rest => by
      simp only [Item.WF, Bool.or_eq_true, Bool.and_eq_true, beq_iff_eq, decide_eq_true_eq] at h
      -- the three legal widths are `argLen` of the additional information written
      have fl : ∀ a, 25 ≤ a → a < 28 → bits < 256 ^ argLen a →
          decode (f + 1) (UInt8.ofNat (7 * 32 + a) :: beBytes (argLen a) bits ++ rest)
            = some (.float (if a = 25 then 2 else if a = 26 then 4 else 8) bits, rest) := fun a h1 h2 hb => by
        rw [decode, List.cons_append, readHead_arg 7 a bits rest (by omega) (by omega) h2 hb]
        simp only [show ¬ a < 24 by omega, show ¬ a = 24 by omega, if_false]
      rcases h with (⟨rfl, hb⟩ | ⟨rfl, hb⟩) | ⟨rfl, hb⟩
      · exact fl 25 (by omega) (by omega) hb
      · exact fl 26 (by omega) (by omega) hb
      · exact fl 27 (by omega) (by omega) hb
  theorem decodeList_encode : ∀ (xs : List Item), wfList xs = true → ∀ fuel, costList xs ≤ fuel → ∀ rest,
      decodeList fuel xs.length (encodeList xs ++ rest) = some (xs, rest)
    | [], _, fuel, _, rest => by simp [encodeList, decodeList]
    | x :: xs, h, fuel, hf, rest => by
      simp only [wfList, Bool.and_eq_true] at h
      simp only [costList] at hf
      cases fuel with
      | zero => omega
      | succ f =>
        simp only [encodeList, List.length_cons, decodeList, List.append_assoc]
        rw [decode_encode x h.1 f (by omega) (encodeList xs ++ rest)]
        simp only
        rw [decodeList_encode xs h.2 f (by omega) rest]
  theorem decodePairs_encode : ∀ (kvs : List (Item × Item)), wfPairs kvs = true → ∀ fuel, costPairs kvs ≤ fuel → ∀ rest,
      decodePairs fuel kvs.length (encodePairs kvs ++ rest) = some (kvs, rest)
    | [], _, fuel, _, rest => by simp [encodePairs, decodePairs]
    | (k, v) :: kvs, h, fuel, hf, rest => by
      simp only [wfPairs, Bool.and_eq_true] at h
      simp only [costPairs] at hf
      cases fuel with
      | zero => omega
      | succ f =>
        simp only [encodePairs, List.length_cons, decodePairs, List.append_assoc]
        rw [decode_encode k h.1.1 f (by omega) (encode v ++ (encodePairs kvs ++ rest))]
        simp only
        rw [decode_encode v h.1.2 f (by omega) (encodePairs kvs ++ rest)]
        simp only
        rw [decodePairs_encode kvs h.2 f (by omega) rest]
end

theorem head_length_pos (m n : Nat) : 1 ≤ (head m n).length := by
  unfold head
  dsimp only
  repeat' split
  all_goals exact Nat.le_add_left 1 _

mutual
  theorem cost_le : ∀ (x : Item), x.cost + 1 ≤ 2 * (encode x).length
    | .uint n => by have := head_length_pos 0 n; simp only [Item.cost, encode]; omega
    | .nint n => by have := head_length_pos 1 n; simp only [Item.cost, encode]; omega
    | .bytes b => by have := head_length_pos 2 b.length; simp only [Item.cost, encode, List.length_append]; omega
    | .text b => by have := head_length_pos 3 b.length; simp only [Item.cost, encode, List.length_append]; omega
    | .array xs => by
      have := head_length_pos 4 xs.length
      have := costList_le xs
      simp only [Item.cost, encode, List.length_append]; omega
    | .map kvs => by
      have := head_length_pos 5 kvs.length
      have := costPairs_le kvs
      simp only [Item.cost, encode, List.length_append]; omega
    | .tag t x => by
      have := head_length_pos 6 t
      have := cost_le x
      simp only [Item.cost, encode, List.length_append]; omega
    | .simple v => by have := head_length_pos 7 v; simp only [Item.cost, encode]; omega
    | .float w bits => by simp only [Item.cost, encode, List.length_cons]; omega
  theorem costList_le : ∀ (xs : List Item), costList xs ≤ 2 * (encodeList xs).length
    | [] => by simp [costList]
    | x :: xs => by
      have := cost_le x
      have := costList_le xs
      simp only [costList, encodeList, List.length_append]; omega
  theorem costPairs_le : ∀ (kvs : List (Item × Item)), costPairs kvs ≤ 2 * (encodePairs kvs).length
    | [] => by simp [costPairs]
    | (k, v) :: kvs => by
      have := cost_le k
      have := cost_le v
      have := costPairs_le kvs
      simp only [costPairs, encodePairs, List.length_append]; omega
end

theorem decode1_encode (x : Item) (h : x.WF = true) (rest : Bytes) : decode1 (encode x ++ rest) = some (x, rest) := by
  unfold decode1
  have := cost_le x
  exact decode_encode x h _ (by simp only [List.length_append]; omega) rest

theorem skip_encode (x : Item) (h : x.WF = true) (rest : Bytes) : skip (encode x ++ rest) = some (encode x).length := by
  unfold skip
  rw [decode1_encode x h rest]
  simp

mutual
  /-- what a decoded item occupies: one unit per item plus its payload bytes -/
  def Item.size : Item → Nat
    | .bytes b => 1 + b.length
    | .text b => 1 + b.length
    | .array xs => 1 + sizeList xs
    | .map kvs => 1 + sizePairs kvs
    | .tag _ x => 1 + x.size
    | _ => 1
  def sizeList : List Item → Nat
    | [] => 0
    | x :: xs => x.size + sizeList xs
  def sizePairs : List (Item × Item) → Nat
    | [] => 0
    | (k, v) :: kvs => k.size + v.size + sizePairs kvs
end

/-- What the reader answers depends on the bytes `c` it consumed alone: not on what follows them, nor on the fuel
once there is enough.  Monotonicity in fuel, the size bounds of C15 and prefix-freeness all come from here. -/
theorem decode_reads_all : ∀ f : Nat,
    (∀ bs x r, decode f bs = some (x, r) →
      ∃ c, bs = c ++ r ∧ x.size ≤ c.length ∧ ∀ g, f ≤ g → ∀ q, decode g (c ++ q) = some (x, q))
    ∧ (∀ n bs xs r, decodeList f n bs = some (xs, r) →
      ∃ c, bs = c ++ r ∧ sizeList xs ≤ c.length ∧ ∀ g, f ≤ g → ∀ q, decodeList g n (c ++ q) = some (xs, q))
    ∧ (∀ n bs kvs r, decodePairs f n bs = some (kvs, r) →
      ∃ c, bs = c ++ r ∧ sizePairs kvs ≤ c.length ∧ ∀ g, f ≤ g → ∀ q, decodePairs g n (c ++ q) = some (kvs, q)) := by
  intro f
  induction f with
  | zero =>
    refine ⟨fun _ _ _ h => (by cases h), ?_, ?_⟩
    · intro n bs xs r h
      cases n with
      | zero => cases h; exact ⟨[], rfl, Nat.le_refl _, fun g _ q => by cases g <;> rfl⟩
      | succ n => cases h
    · intro n bs kvs r h
      cases n with
      | zero => cases h; exact ⟨[], rfl, Nat.le_refl _, fun g _ q => by cases g <;> rfl⟩
      | succ n => cases h
  | succ f ih =>
    obtain ⟨ihd, ihl, ihp⟩ := ih
    refine ⟨?_, ?_, ?_⟩
    · intro bs x r h
      rw [decode] at h
      cases hh : readHead bs with
      | none => rw [hh] at h; cases h
      | some hd =>
        obtain ⟨m, ai, n, rest⟩ := hd
        obtain ⟨c, rfl, hc, hr⟩ := readHead_reads hh
        rw [hh] at h
        simp only at h
        -- in every case the head `c` is consumed and then a body `c'` (empty, a payload, or what the inner reader consumed)
        have body : ∀ (y : Item) (c' r' : Bytes), y.size ≤ 1 + c'.length →
            (∀ g, f ≤ g → ∀ q, decode (g + 1) (c ++ (c' ++ q)) = some (y, q)) →
            ∃ c'', c ++ (c' ++ r') = c'' ++ r' ∧ y.size ≤ c''.length
              ∧ ∀ g, f + 1 ≤ g → ∀ q, decode g (c'' ++ q) = some (y, q) := by
          intro y c' r' hy hd
          refine ⟨c ++ c', (List.append_assoc ..).symm, by rw [List.length_append]; omega, fun g hg q => ?_⟩
          obtain ⟨g, rfl⟩ : ∃ g', g = g' + 1 := ⟨g - 1, by omega⟩
          rw [List.append_assoc]
          exact hd g (by omega) q
        split at h
        case h_1 | h_2 =>  -- uint, nint
          cases h
          exact body _ [] _ (Nat.le_refl _) fun g _ q => by simp only [decode, List.nil_append, hr]
        case h_3 | h_4 =>  -- bytes, text
          split at h
          · cases h
          · cases h
            have hl : (rest.take n).length = n := by simp; omega
            have := body _ (rest.take n) (rest.drop n) (Nat.le_refl _) fun g _ q => by
              simp only [decode, hr]
              rw [if_neg (by simp; omega), List.take_left' hl, List.drop_left' hl]
            rwa [List.take_append_drop] at this
        · cases hl : decodeList f n rest with
          | none => rw [hl] at h; cases h
          | some v =>
            rw [hl] at h; cases h
            obtain ⟨c', rfl, hs, hr'⟩ := ihl n rest _ _ hl
            exact body _ c' _ (by simp [Item.size]; omega) fun g hg q => by simp only [decode, hr, hr' g hg q]
        · cases hl : decodePairs f n rest with
          | none => rw [hl] at h; cases h
          | some v =>
            rw [hl] at h; cases h
            obtain ⟨c', rfl, hs, hr'⟩ := ihp n rest _ _ hl
            exact body _ c' _ (by simp [Item.size]; omega) fun g hg q => by simp only [decode, hr, hr' g hg q]
        · cases hl : decode f rest with
          | none => rw [hl] at h; cases h
          | some v =>
            rw [hl] at h; cases h
            obtain ⟨c', rfl, hs, hr'⟩ := ihd rest _ _ hl
            exact body _ c' _ (by simp [Item.size]; omega) fun g hg q => by simp only [decode, hr, hr' g hg q]
        · split at h
          · cases h
            exact body _ [] _ (Nat.le_refl _) fun g _ q => by simp only [decode, List.nil_append, hr, if_pos ‹ai < 24›]
          · split at h
            · split at h
              · cases h
              · cases h
                subst ‹ai = 24›
                exact body _ [] _ (Nat.le_refl _) fun g _ q => by simp only [decode, List.nil_append, *, if_false, if_true]
            · cases h
              exact body _ [] _ (Nat.le_refl _) fun g _ q => by simp only [decode, List.nil_append, *, if_false]
    · intro n bs xs r h
      cases n with
      | zero => cases h; exact ⟨[], rfl, Nat.le_refl _, fun g _ q => by cases g <;> rfl⟩
      | succ n =>
        rw [decodeList] at h
        cases hd : decode f bs with
        | none => rw [hd] at h; cases h
        | some v =>
          rw [hd] at h
          obtain ⟨c1, rfl, hs1, hr1⟩ := ihd bs _ _ hd
          simp only at h
          cases hl : decodeList f n v.2 with
          | none => rw [hl] at h; cases h
          | some w =>
            rw [hl] at h; cases h
            obtain ⟨c2, e2, hs2, hr2⟩ := ihl n v.2 _ _ hl
            refine ⟨c1 ++ c2, by rw [e2]; simp, by simp [sizeList]; omega, fun g hg q => ?_⟩
            obtain ⟨g, rfl⟩ : ∃ g', g = g' + 1 := ⟨g - 1, by omega⟩
            simp only [List.append_assoc, decodeList, hr1 g (by omega), hr2 g (by omega)]
    · intro n bs kvs r h
      cases n with
      | zero => cases h; exact ⟨[], rfl, Nat.le_refl _, fun g _ q => by cases g <;> rfl⟩
      | succ n =>
        rw [decodePairs] at h
        cases hk : decode f bs with
        | none => rw [hk] at h; cases h
        | some k =>
          rw [hk] at h
          obtain ⟨c1, rfl, hs1, hr1⟩ := ihd bs _ _ hk
          simp only at h
          cases hv : decode f k.2 with
          | none => rw [hv] at h; cases h
          | some v =>
            rw [hv] at h
            obtain ⟨c2, e2, hs2, hr2⟩ := ihd k.2 _ _ hv
            simp only at h
            cases hl : decodePairs f n v.2 with
            | none => rw [hl] at h; cases h
            | some w =>
              rw [hl] at h; cases h
              obtain ⟨c3, e3, hs3, hr3⟩ := ihp n v.2 _ _ hl
              refine ⟨c1 ++ c2 ++ c3, by rw [e2, e3]; simp, by simp [sizePairs]; omega, fun g hg q => ?_⟩
              obtain ⟨g, rfl⟩ : ∃ g', g = g' + 1 := ⟨g - 1, by omega⟩
              simp only [List.append_assoc, decodePairs, hr1 g (by omega), hr2 g (by omega), hr3 g (by omega)]

/-- Were a proper prefix `p` of `enc = p ++ q` accepted, `enc` would be read the same way and leave `q`, but it leaves
nothing.  Generic in the reader, so that items, item lists and pair lists are instances; `P` carries along whatever
else is known of the consumed bytes and plays no part. -/
theorem none_of_proper_prefix {α : Type} {rd : Nat → Bytes → Option (α × Bytes)} {P : α → Bytes → Prop}
    (reads : ∀ f bs a r, rd f bs = some (a, r) → ∃ c, bs = c ++ r ∧ P a c ∧ ∀ g, f ≤ g → ∀ q, rd g (c ++ q) = some (a, q))
    {enc : Bytes} {a : α} {c : Nat} (rt : ∀ f, c ≤ f → rd f enc = some (a, []))
    {p q : Bytes} (he : enc = p ++ q) (hq : q ≠ []) (f : Nat) : rd f p = none := by
  cases h : rd f p with
  | none => rfl
  | some br =>
    obtain ⟨c', rfl, -, hr⟩ := reads f p br.1 br.2 h
    have h1 := hr (max f c) (Nat.le_max_left _ _) (br.2 ++ q)
    rw [← List.append_assoc, ← he, rt _ (Nat.le_max_right _ _)] at h1
    have : q = [] := (List.append_eq_nil_iff.mp (congrArg Prod.snd (Option.some.inj h1)).symm).2
    exact absurd this hq

theorem decode_prefix (x : Item) (h : x.WF = true) (p q : Bytes) (he : encode x = p ++ q) (hq : q ≠ []) (fuel : Nat) :
    decode fuel p = none :=
  none_of_proper_prefix
    (fun f => (decode_reads_all f).1)
    (fun f hf => by simpa using decode_encode x h f hf []) he hq fuel

theorem decodeList_prefix : ∀ (xs : List Item), wfList xs = true → ∀ p q, encodeList xs = p ++ q → q ≠ [] → ∀ fuel,
    decodeList fuel xs.length p = none :=
  fun xs h _ _ he hq fuel =>
    none_of_proper_prefix (rd := fun f => decodeList f xs.length)
      (fun f => (decode_reads_all f).2.1 xs.length)
      (fun f hf => by simpa using decodeList_encode xs h f hf []) he hq fuel

theorem decodePairs_prefix : ∀ (kvs : List (Item × Item)), wfPairs kvs = true → ∀ p q, encodePairs kvs = p ++ q → q ≠ [] → ∀ fuel,
    decodePairs fuel kvs.length p = none :=
  fun kvs h _ _ he hq fuel =>
    none_of_proper_prefix (rd := fun f => decodePairs f kvs.length)
      (fun f => (decode_reads_all f).2.2 kvs.length)
      (fun f hf => by simpa using decodePairs_encode kvs h f hf []) he hq fuel

theorem skip_prefix (x : Item) (h : x.WF = true) (p q : Bytes) (he : encode x = p ++ q) (hq : q ≠ []) : skip p = none := by
  unfold skip decode1
  rw [decode_prefix x h p q he hq]
  rfl

end PasskeyVerif.Cbor
