/-
Walking the label trie is the publicsuffix.org algorithm over the trie's rules (for every label list,
every trie with distinct sibling labels).
-/
import PasskeyVerif.Lemmas.PslTrie
namespace PasskeyVerif.Psl
open Spec

/-- The walk of `public_suffix` on a trie, relative to the current node: `none` = the suffix is not
updated, `some j` = the suffix becomes the last `j` labels of the name walked so far (`some 0`:
an exception node at the first label). `wild` is the wildcard bit of the parent. -/
def walkO : Forest → Bool → List Label → Option Nat
  | _, _, [] => none
  | f, wild, l :: rest =>
    let cur := if wild then some 1 else none
    match f.lookup l with
    | none => cur
    | some (kind, w, ch) =>
      match kind with
      | .exception => some 0
      | .normal => match walkO ch w rest with
        | some j => some (j + 1)
        | none => some 1
      | .parentOnly => match walkO ch w rest with
        | some j => some (j + 1)
        | none => cur

/-- the wildcard rule contributed by the parent's wildcard bit, relative to the parent -/
def wildRule (w : Bool) : List Rule := if w then [⟨[], .wildcard⟩] else []

/-- a node's own wildcard rule is the relative one of its children, one level down -/
theorem Forest.rules_cons (l : Label) (k : NKind) (w : Bool) (ch sib : Forest) :
    (Forest.cons l k w ch sib).rules = ownRules k l ++ (wildRule w ++ ch.rules).map (prepend l) ++ sib.rules := by
  cases w <;> simp [Forest.rules, wildRule, prepend]

theorem lookup_eq_none_iff (f : Forest) (l : Label) : f.lookup l = none ↔ l ∉ f.labels := by
  induction f with
  | nil => simp [Forest.lookup, Forest.labels]
  | cons l0 k w ch sib _ ihs =>
    rw [Forest.lookup, Forest.labels, List.mem_cons, not_or, ← ihs]
    by_cases h : l0 = l
    · simp [h]
    · simp [h, Ne.symm h]

theorem notin_of_lookup_none (f : Forest) (l : Label) (h : f.lookup l = none) : l ∉ f.labels :=
  (lookup_eq_none_iff f l).mp h

theorem mem_labels_of_lookup {f : Forest} {l : Label} {x : NKind × Bool × Forest} (h : f.lookup l = some x) :
    l ∈ f.labels :=
  Decidable.byContradiction fun hn => by rw [(lookup_eq_none_iff f l).mpr hn] at h; cases h

theorem Forest.WF.lookup {f : Forest} (hf : f.WF) {l : Label} {k : NKind} {w : Bool} {ch : Forest}
    (h : f.lookup l = some (k, w, ch)) : ch.WF := by
  induction f with
  | nil => cases h
  | cons l' k' w' ch' sib _ ihs =>
    rw [Forest.lookup] at h
    split at h
    · cases h; exact hf.2.1
    · exact ihs hf.2.2 h

def matching (R : List Rule) (ls : List Label) : List Rule := R.filter (fun r => r.matches ls)

def excOf (M : List Rule) : Option Nat := (M.find? (fun r => r.kind = .exception)).map (·.labels.length)

def maxO : List Nat → Option Nat
  | [] => none
  | xs => some (maxOf xs)

theorem maxO_cons (a : Nat) (as : List Nat) : maxO (a :: as) = some (maxOf (a :: as)) := rfl

theorem maxOf_map_succ (xs : List Nat) (h : xs ≠ []) : maxOf (xs.map (· + 1)) = maxOf xs + 1 := by
  induction xs with
  | nil => exact absurd rfl h
  | cons a as ih =>
    cases as with
    | nil => simp [maxOf]
    | cons b bs =>
      have := ih (by simp)
      simp only [List.map_cons, maxOf] at this ⊢
      omega

theorem maxO_map_succ (xs : List Nat) : maxO (xs.map (· + 1)) = (maxO xs).map (· + 1) := by
  cases xs with
  | nil => rfl
  | cons a as => exact congrArg some (maxOf_map_succ (a :: as) (by simp))

def lensOf (M : List Rule) : List Nat := (M.filter (fun r => r.kind ≠ .exception)).map Rule.len

/-- relative form of `Spec.suffixLabels` (before the implicit `*` rule) -/
def specO (M : List Rule) : Option Nat :=
  match excOf M with
  | some e => some (e - 1)
  | none => maxO (lensOf M)

theorem matching_append (A B : List Rule) (ls : List Label) :
    matching (A ++ B) ls = matching A ls ++ matching B ls := List.filter_append ..

theorem matches_prepend (l l0 : Label) (r : Rule) (rest : List Label) :
    (prepend l r).matches (l0 :: rest) = (l == l0 && r.matches rest) := by
  simp [Rule.matches, prepend, List.isPrefixOf_cons_cons, Bool.and_assoc]

theorem matching_map_prepend (l l0 : Label) (R : List Rule) (rest : List Label) :
    matching (R.map (prepend l)) (l0 :: rest) = if l = l0 then (matching R rest).map (prepend l) else [] := by
  unfold matching
  rw [List.filter_map]
  by_cases h : l = l0 <;> simp [Function.comp_def, matches_prepend, h]

theorem matching_own (k : NKind) (l l0 : Label) (rest : List Label) :
    matching (ownRules k l) (l0 :: rest) = if l = l0 then ownRules k l else [] := by
  by_cases h : l = l0 <;> cases k <;> simp [ownRules, matching, Rule.matches, List.isPrefixOf_cons_cons, h]

theorem matching_wildRule (w : Bool) (ls : List Label) :
    matching (wildRule w) ls = if ls = [] then [] else wildRule w := by
  cases w <;> cases ls <;> simp [wildRule, matching, Rule.matches]

theorem forest_rule_labels_ne_nil (f : Forest) (r : Rule) (h : r ∈ f.rules) : r.labels ≠ [] := by
  induction f with
  | nil => cases h
  | cons l k w ch sib _ ihs =>
    simp only [Forest.rules_cons, List.mem_append, List.mem_map] at h
    rcases h with (h | ⟨r', _, rfl⟩) | h
    · cases k <;> simp [ownRules] at h <;> simp [h]
    · simp [prepend]
    · exact ihs h

theorem matching_nil (f : Forest) : matching f.rules [] = [] :=
  List.filter_eq_nil_iff.mpr fun r hr => by
    have := forest_rule_labels_ne_nil f r hr
    cases hl : r.labels <;> simp_all [Rule.matches]

theorem matching_lookup (f : Forest) (hf : f.WF) (l0 : Label) (rest : List Label) :
    matching f.rules (l0 :: rest) =
      match f.lookup l0 with
      | none => []
      | some (k, w, ch) => ownRules k l0 ++ (matching (wildRule w ++ ch.rules) rest).map (prepend l0) := by
  induction f with
  | nil => rfl
  | cons l k w ch sib _ ihs =>
    rw [Forest.rules_cons, matching_append, matching_append, matching_own, matching_map_prepend, ihs hf.2.2,
      Forest.lookup]
    by_cases he : l = l0
    · subst he
      simp [(lookup_eq_none_iff sib l).mpr hf.1]
    · simp [he]

theorem excOf_append (A B : List Rule) : excOf (A ++ B) = (excOf A).or (excOf B) := by
  simp only [excOf, List.find?_append, Option.map_or]

theorem lensOf_append (A B : List Rule) : lensOf (A ++ B) = lensOf A ++ lensOf B := by
  simp [lensOf]

theorem excOf_map_prepend (l : Label) (M : List Rule) :
    excOf (M.map (prepend l)) = (excOf M).map (· + 1) := by
  simp only [excOf, List.find?_map, Option.map_map]
  rfl

theorem lensOf_map_prepend (l : Label) (M : List Rule) :
    lensOf (M.map (prepend l)) = (lensOf M).map (· + 1) := by
  unfold lensOf
  rw [List.filter_map, List.map_map, List.map_map]
  apply List.map_congr_left
  intro r _
  simp only [Function.comp, Rule.len, prepend]
  cases r.kind <;> rfl

theorem excOf_pos (w : Bool) (f : Forest) (ls : List Label) (e : Nat)
    (h : excOf (matching (wildRule w ++ f.rules) ls) = some e) : 1 ≤ e := by
  obtain ⟨r, hr, rfl⟩ := Option.map_eq_some_iff.mp h
  have hk := List.find?_some hr
  rcases List.mem_append.mp (List.mem_filter.mp (List.mem_of_find?_eq_some hr)).1 with hw | hf
  · cases w <;> simp [wildRule] at hw
    subst hw; simp at hk
  · exact List.length_pos_iff.mpr (forest_rule_labels_ne_nil f r hf)

theorem maxOf_append (xs ys : List Nat) : maxOf (xs ++ ys) = max (maxOf xs) (maxOf ys) := by
  induction xs with
  | nil => rw [List.nil_append, maxOf, Nat.zero_max]
  | cons a as ih => rw [List.cons_append, maxOf, maxOf, ih, Nat.max_assoc]

/-- lengths one level down dominate the lengths `1` of the rules that end here -/
theorem maxO_ones_append_map_succ (pre xs : List Nat) (hpre : maxOf pre ≤ 1) :
    maxO (pre ++ xs.map (· + 1)) = match maxO xs with | some j => some (j + 1) | none => maxO pre := by
  cases xs with
  | nil => simp [maxO]
  | cons a as =>
    have h := maxOf_map_succ (a :: as) (by simp)
    cases pre with
    | nil => exact congrArg some h
    | cons b bs =>
      show some (maxOf ((b :: bs) ++ (a :: as).map (· + 1))) = some (maxOf (a :: as) + 1)
      rw [maxOf_append, h]
      congr 1; omega

/-- The relative specification satisfies the defining equation of `walkO`. -/
theorem specO_step (f : Forest) (hf : f.WF) (wild : Bool) (l0 : Label) (rest : List Label) :
    specO (matching (wildRule wild ++ f.rules) (l0 :: rest)) =
      match f.lookup l0 with
      | none => if wild then some 1 else none
      | some (k, w, ch) =>
        match k with
        | .exception => some 0
        | .normal => match specO (matching (wildRule w ++ ch.rules) rest) with
          | some j => some (j + 1)
          | none => some 1
        | .parentOnly => match specO (matching (wildRule w ++ ch.rules) rest) with
          | some j => some (j + 1)
          | none => if wild then some 1 else none := by
  rw [matching_append, matching_wildRule, if_neg (List.cons_ne_nil _ _), matching_lookup f hf l0 rest]
  cases f.lookup l0 with
  | none => cases wild <;> rfl
  | some x =>
    obtain ⟨k, w, ch⟩ := x
    dsimp only
    have hpos := excOf_pos w ch rest
    generalize matching (wildRule w ++ ch.rules) rest = M at hpos
    -- the rules that end at this node: at most one exception, lengths 1
    have hpre : excOf (wildRule wild ++ ownRules k l0) = (if k = .exception then some 1 else none)
        ∧ maxOf (lensOf (wildRule wild ++ ownRules k l0)) ≤ 1 := by
      cases wild <;> cases k <;> exact ⟨rfl, Nat.le_of_ble_eq_true rfl⟩
    unfold specO
    rw [← List.append_assoc, excOf_append, lensOf_append, hpre.1, excOf_map_prepend, lensOf_map_prepend]
    cases he : excOf M with
    | some e =>
      -- an exception rule below prevails, unless this node is an exception itself
      have he1 : e + 1 - 1 = e - 1 + 1 := by have := hpos e he; omega
      cases k
      · exact congrArg some he1
      · rfl
      · exact congrArg some he1
    | none =>
      rw [Option.map_none, Option.or_none, maxO_ones_append_map_succ _ _ hpre.2]
      cases k <;> cases maxO (lensOf M) <;> cases wild <;> rfl

/-- **Trie walk = PSL algorithm over the trie's rules**, relative form: below a parent with wildcard
bit `wild`, for every label list. -/
theorem walkO_spec (ls : List Label) : ∀ (f : Forest) (wild : Bool), f.WF →
    walkO f wild ls = specO (matching (wildRule wild ++ f.rules) ls) := by
  induction ls with
  | nil =>
    intro f wild _
    rw [matching_append, matching_wildRule, matching_nil]
    rfl
  | cons l0 rest ih =>
    intro f wild hf
    rw [specO_step f hf, walkO]
    cases hl : f.lookup l0 with
    | none => rfl
    | some x =>
      obtain ⟨k, w, ch⟩ := x
      dsimp only
      rw [ih ch w (hf.lookup hl)]

theorem suffixLabels_eq (R : List Rule) (ls : List Label) (hlen : ∀ r ∈ R, 1 ≤ r.len) :
    suffixLabels R ls = (specO (matching R ls)).getD 1 := by
  unfold suffixLabels specO excOf
  rw [← List.head?_filter]
  show (match (matching R ls).filter (fun r => r.kind = Kind.exception) with | e :: _ => _ | [] => _) = _
  cases (matching R ls).filter (fun r => r.kind = Kind.exception) with
  | cons e es => rfl
  | nil =>
    show (if maxOf (lensOf (matching R ls)) = 0 then 1 else maxOf (lensOf (matching R ls))) = (maxO (lensOf (matching R ls))).getD 1
    have hall : ∀ x ∈ lensOf (matching R ls), 1 ≤ x := by
      intro x hx
      obtain ⟨r, hr, rfl⟩ := List.mem_map.mp hx
      exact hlen r (List.mem_filter.mp (List.mem_filter.mp hr).1).1
    generalize lensOf (matching R ls) = xs at hall ⊢
    cases xs with
    | nil => rfl
    | cons a as =>
      have := hall a List.mem_cons_self
      exact if_neg (by simp only [maxOf]; omega)

/-- The same in absolute form, with the implicit rule `*`: the number of suffix labels of the PSL
algorithm over the trie's rules is what the walk from the root finds. -/
theorem suffixLabels_rules (f : Forest) (hf : f.WF) (ls : List Label) :
    suffixLabels f.rules ls = (walkO f false ls).getD 1 := by
  rw [walkO_spec ls f false hf]
  apply suffixLabels_eq
  intro r hr
  have := forest_rule_labels_ne_nil f r hr
  unfold Rule.len
  cases hl : r.labels with
  | nil => exact absurd hl this
  | cons a as => cases r.kind <;> simp

theorem walkO_le (f : Forest) (w : Bool) (ls : List Label) (j : Nat) (h : walkO f w ls = some j) : j ≤ ls.length := by
  have hcur : ∀ (w : Bool) j (l : Label) (rest : List Label), (if w = true then some 1 else none) = some j → j ≤ (l :: rest).length := by
    intro w j l rest hj; split at hj <;> cases hj; simp
  fun_induction walkO f w ls generalizing j with
  | case1 => cases h
  | case2 f wild l rest _ => exact hcur _ _ _ _ h
  | case3 => cases h; simp
  | case4 f wild l rest w ch j' hw _ ih => cases h; simp; exact ih _ hw
  | case5 => cases h; simp
  | case6 f wild l rest w ch j' hw _ ih => cases h; simp; exact ih _ hw
  | case7 f wild l rest w ch hw _ ih => exact hcur _ _ _ _ h

end PasskeyVerif.Psl
