/- The authenticator's extension processing (`calculate_hmac_secret`, `make_extensions`, `get_extensions`)
in closed form: one equation per function, which the C09 theorems and the error-code lemmas read off. -/
import PasskeyVerif.Spec.Auth
namespace PasskeyVerif.Auth
open PasskeyVerif.Auth.Spec
open PasskeyVerif.AuthData (Bytes)

theorem _root_.Except.map_eq_ok {ε α β : Type} {f : α → β} {x : Except ε α} {b : β} (h : x.map f = .ok b) : ∃ a, x = .ok a ∧ f a = b := by
  cases x with
  | error e => cases h
  | ok a => exact ⟨a, rfl, Except.ok.inj h⟩

theorem _root_.Except.map_eq_error {ε α β : Type} {f : α → β} {x : Except ε α} {e : ε} (h : x.map f = .error e) : x = .error e := by
  cases x with
  | error e' => exact congrArg _ (Except.error.inj h)
  | ok a => cases h

/-- the outputs under the secret `k`: a second one only for a second salt, and only when the
configuration has a non-gated secret (hmac_secret.rs drops it otherwise) -/
def hmacOutputs (k : Bytes) (salts : PrfValues) (h : HmacCfg) : PrfValues :=
  ⟨Sha256.hmac k salts.first, salts.second.bind fun s => if h.withoutUv then some (Sha256.hmac k s) else none⟩

theorem calculateHmacSecret_eq (creds : HmacSecret) (salts : PrfValues) (h : HmacCfg) (uv : Bool) :
    calculateHmacSecret creds salts h uv =
      (match secretFor creds uv with
       | some k => .ok (hmacOutputs k salts h)
       | none => .error eUserVerificationBlocked) := by
  unfold calculateHmacSecret secretFor hmacOutputs
  cases uv <;> cases creds.withoutUv <;> cases salts.second <;> rfl

theorem prfMatches_hmacOutputs (k : Bytes) (salts : PrfValues) (h : HmacCfg) :
    prfMatches k salts (hmacOutputs k salts h) = true := by
  unfold prfMatches hmacOutputs
  cases salts.second <;> cases h.withoutUv <;> simp

theorem calculateHmacSecret_ok {creds : HmacSecret} {salts : PrfValues} {h : HmacCfg} {uv : Bool} {out : PrfValues}
    (hc : calculateHmacSecret creds salts h uv = .ok out) :
    ∃ k, secretFor creds uv = some k ∧ out = hmacOutputs k salts h := by
  rw [calculateHmacSecret_eq] at hc
  split at hc
  · exact ⟨_, ‹_›, (Except.ok.inj hc).symm⟩
  · cases hc

theorem calculateHmacSecret_err {creds : HmacSecret} {salts : PrfValues} {hc : HmacCfg} {uv : Bool} {e : Nat}
    (h : calculateHmacSecret creds salts hc uv = .error e) : e = eUserVerificationBlocked := by
  rw [calculateHmacSecret_eq] at h
  split at h
  · cases h
  · exact (Except.error.inj h).symm

/-- the zipping of an empty request changes nothing that follows, so the PRF output is decided by the `prf`
member, the capability and the secrets built, in that order -/
theorem makeExtensions_eq (cfg : Cfg) (dr : Draws) (request : Option MakeExtIn) (uv : Bool) :
    makeExtensions cfg dr request uv =
      (match request.bind (·.prf), cfg.hmac with
       | some input, some h =>
         match makeHmacSecret cfg dr (request.map fun r => r.hmacSecret.getD true) with
         | none => .ok (some ⟨false, none⟩, none)
         | some creds =>
           match (if h.onMake then input.eval else none) with
           | some salts => (calculateHmacSecret creds salts h uv).map fun v => (some ⟨true, some v⟩, some creds)
           | none => .ok (some ⟨true, none⟩, some creds)
       | _, _ => .ok (none, makeHmacSecret cfg dr (request.map fun r => r.hmacSecret.getD r.prf.isSome))) := by
  unfold makeExtensions
  rcases request with _ | ⟨hs, mc, _ | input⟩
  · rfl
  · cases hs <;> cases mc <;> cases cfg.hmac <;> rfl
  · -- a request with `prf` survives the zipping, and asks for secrets unless `hmac-secret` says no
    simp only [Option.isSome_some, Bool.or_true, if_true, Option.bind_some, Option.map_some]
    generalize hst : makeHmacSecret cfg dr _ = stored
    have : makeHmacSecret cfg dr (some (hs.getD true)) = stored := by
      rw [← hst]
      cases hs <;> rfl
    rw [this]
    cases cfg.hmac with
    | none => rfl
    | some h =>
      cases stored with
      | none => rfl
      | some creds =>
        dsimp only
        cases h.onMake with
        | false => rfl
        | true =>
          simp only [reduceIte]
          cases input.eval with
          | none => rfl
          | some salts =>
            dsimp only
            cases calculateHmacSecret creds salts h uv <;> rfl

theorem makeExtensions_no_capability {cfg : Cfg} (dr : Draws) (request : Option MakeExtIn) (uv : Bool)
    (hn : cfg.hmac = none) : makeExtensions cfg dr request uv = .ok (none, none) := by
  have hs : ∀ w, makeHmacSecret cfg dr w = none := fun w => by unfold makeHmacSecret; rw [hn]
  rw [makeExtensions_eq, hn]
  simp only [hs]
  cases request.bind (·.prf) <;> rfl

theorem makeExtensions_some {cfg : Cfg} {dr : Draws} {request : Option MakeExtIn} {uv : Bool} {o : PrfMakeOut}
    {stored : Option HmacSecret} (h : makeExtensions cfg dr request uv = .ok (some o, stored)) :
    ∃ input hc, request.bind (·.prf) = some input ∧ cfg.hmac = some hc ∧ o.enabled = stored.isSome
      ∧ ∀ res, o.results = some res → ∃ creds salts k, stored = some creds ∧ input.eval = some salts
          ∧ secretFor creds uv = some k ∧ res = hmacOutputs k salts hc := by
  rw [makeExtensions_eq] at h
  split at h
  · rename_i input hc hin hcfg
    refine ⟨input, hc, hin, hcfg, ?_⟩
    split at h
    · cases h
      exact ⟨rfl, fun _ hr => nomatch hr⟩
    · rename_i creds _
      split at h
      · rename_i salts hs
        obtain ⟨v, hv, hx⟩ := Except.map_eq_ok h
        cases hx
        obtain ⟨k, hk, rfl⟩ := calculateHmacSecret_ok hv
        refine ⟨rfl, fun res hr => ⟨creds, salts, k, rfl, ?_, hk, (Option.some.inj hr).symm⟩⟩
        split at hs
        · exact hs
        · cases hs
      · cases h
        exact ⟨rfl, fun _ hr => nomatch hr⟩
  · cases h

theorem makeExtensions_err {cfg : Cfg} {dr : Draws} {r : Option MakeExtIn} {uv : Bool} {e : Nat}
    (h : makeExtensions cfg dr r uv = .error e) : e = eUserVerificationBlocked := by
  rw [makeExtensions_eq] at h
  split at h
  · split at h
    · cases h
    · split at h
      · exact calculateHmacSecret_err (Except.map_eq_error h)
      · cases h
  · cases h

theorem getExtensions_eq (cfg : Cfg) (p : Passkey) (request : Option GetExtIn) (uv : Bool) :
    getExtensions cfg p request uv =
      (match request.bind (·.prf), cfg.hmac with
       | some input, some h =>
         match p.hmac with
         | none => .error eU2fInvalidParameter
         | some creds =>
           match selectSalts p.credId input with
           | none => .ok none
           | some salts => (calculateHmacSecret creds salts h uv).map some
       | _, _ => .ok none) := by
  unfold getExtensions
  rcases request with _ | ⟨hs, _ | input⟩
  · rfl
  · cases hs <;> rfl
  · simp only [Option.isSome_some, Bool.or_true, if_true, Option.bind_some]
    cases cfg.hmac with
    | none => rfl
    | some h =>
      cases p.hmac with
      | none => rfl
      | some creds =>
        dsimp only
        cases selectSalts p.credId input with
        | none => rfl
        | some salts =>
          dsimp only
          cases calculateHmacSecret creds salts h uv <;> rfl

/-- what a PRF output at assertion says: `prf` was requested of a capable authenticator, the credential has secrets,
and the output is that of the salts selected for it under the secret `uv` selects -/
theorem getExtensions_some {cfg : Cfg} {p : Passkey} {request : Option GetExtIn} {uv : Bool} {res : PrfValues}
    (h : getExtensions cfg p request uv = .ok (some res)) :
    ∃ input hc creds salts k, request.bind (·.prf) = some input ∧ cfg.hmac = some hc ∧ p.hmac = some creds
      ∧ selectSalts p.credId input = some salts ∧ secretFor creds uv = some k ∧ res = hmacOutputs k salts hc := by
  rw [getExtensions_eq] at h
  split at h
  · rename_i input hc hin hcfg
    split at h
    · cases h
    · rename_i creds hcr
      split at h
      · cases h
      · rename_i salts hs
        obtain ⟨v, hv, hx⟩ := Except.map_eq_ok h
        cases hx
        obtain ⟨k, hk, rfl⟩ := calculateHmacSecret_ok hv
        exact ⟨input, hc, creds, salts, k, hin, hcfg, hcr, hs, hk, rfl⟩
  · cases h

end PasskeyVerif.Auth
