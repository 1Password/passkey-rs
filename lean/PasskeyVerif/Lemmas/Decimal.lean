/- Decimal printing followed by the number reader of Model/WebauthnJson.lean is the identity on integers; and the array
form of `Bytes::deserialize`, which reads such tokens one by one. -/
import PasskeyVerif.Model.WebauthnJson
namespace PasskeyVerif.WJson

theorem toDigits_spec (n : Nat) : digitsVal (Nat.toDigits 10 n) = n ∧ ∀ c ∈ Nat.toDigits 10 n, isDigit c = true := by
  refine ⟨?_, fun c hc => ?_⟩
  · rw [show digitsVal = (Nat.ofDigitChars 10 · 0) by
      funext l; simp only [digitsVal, Nat.ofDigitChars_eq_foldl, Nat.mul_comm]; rfl]
    exact Nat.ofDigitChars_ten_toDigits
  · simpa [isDigit, Char.isDigit, Char.le_def, UInt32.le_iff_toNat_le] using
      Nat.isDigit_of_mem_toDigits (by decide) (by decide) hc

theorem parseDecimal_digits (ds : List Char) (hne : ds ≠ []) (hd : ∀ c ∈ ds, isDigit c = true) (allowPlus : Bool) :
    parseDecimal ds allowPlus = .int (Int.ofNat (digitsVal ds)) ∧ parseDecimal ('-' :: ds) allowPlus = .int (-(Int.ofNat (digitsVal ds))) := by
  have htw : ds.takeWhile isDigit = ds := by simpa using List.takeWhile_append_of_pos (l₂ := []) hd
  have hemp : ds.isEmpty = false := by cases ds with | nil => exact absurd rfl hne | cons _ _ => rfl
  constructor
  · unfold parseDecimal
    split
    rename_i neg rest heq
    -- `ds` starts with a digit, so with neither sign: nothing is stripped
    split at heq
    · cases hd '-' List.mem_cons_self
    · cases hd '+' List.mem_cons_self
    · cases heq
      simp only [htw, List.drop_length, hemp]
      rfl
  · unfold parseDecimal
    simp only [htw, List.drop_length, hemp]
    rfl

theorem parseDecimal_nat (n : Nat) (allowPlus : Bool) : parseDecimal (toString n).toList allowPlus = .int (Int.ofNat n) := by
  have : (toString n).toList = Nat.toDigits 10 n := Nat.toList_repr
  rw [this, (parseDecimal_digits _ Nat.toDigits_ne_nil (toDigits_spec n).2 allowPlus).1, (toDigits_spec n).1]

theorem bytesOf_arr_cons (t : String) (b : UInt8) (js : List Json.Json) (bs : List UInt8)
    (ht : parseDecimal t.toList false = .int (b.toNat : Int)) (h : bytesOf (.arr js) = some bs) :
    bytesOf (.arr (.num t :: js)) = some (b :: bs) := by
  have hb : (0 : Int) ≤ (b.toNat : Int) ∧ (b.toNat : Int) ≤ 255 := ⟨by omega, by have := b.toNat_lt; omega⟩
  unfold bytesOf at h ⊢
  simp only [List.mapM_cons, ht, hb, and_self, if_true, h]
  simp

theorem ofToken_toString (v : Int) (h : i64Min ≤ v ∧ v ≤ i64Max) : ofToken (toString v) = .int v := by
  unfold ofToken
  cases v with
  | ofNat n =>
    rw [show toString (Int.ofNat n) = toString n from rfl, parseDecimal_nat]
    have hn : (Int.ofNat n).toNat ≤ u64Max := by
      have := h.2
      simp only [i64Max, Int.ofNat_eq_natCast] at this
      show n ≤ 18446744073709551615
      omega
    show (if Int.ofNat n ≥ 0 then (if (Int.ofNat n).toNat ≤ u64Max then Num.int (Int.ofNat n) else .unmodelled) else _) = _
    rw [if_pos (show Int.ofNat n ≥ 0 from Int.natCast_nonneg n), if_pos hn]
  | negSucc m =>
    have hs : (toString (Int.negSucc m)).toList = '-' :: Nat.toDigits 10 (m + 1) := by
      show (("-" ++ Nat.repr (m + 1) : String)).toList = _
      rw [String.toList_append, Nat.toList_repr]; rfl
    rw [hs, (parseDecimal_digits _ Nat.toDigits_ne_nil (toDigits_spec (m + 1)).2 false).2, (toDigits_spec (m + 1)).1]
    show (if Int.negSucc m ≥ 0 then _ else (if Int.negSucc m ≥ i64Min then Num.int (Int.negSucc m) else .unmodelled)) = _
    rw [if_neg (by omega), if_pos h.1]

end PasskeyVerif.WJson
