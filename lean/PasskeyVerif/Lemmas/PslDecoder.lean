/-
Checked decoding of the packed table into a trie, and its soundness for `Dec`. Only the evaluation
over the shipped table (`Props/C10Table.lean`) runs the decoder; everything else rests on `Dec`.
-/
import PasskeyVerif.Lemmas.PslTrie
namespace PasskeyVerif.Psl
open Spec

/-- the `k` low bytes of `c`, lowest first -/
def leBytes : Nat → Nat → List Nat
  | 0, _ => []
  | k + 1, c => c % 256 :: leBytes k (c / 256)

theorem leBytes_length (k c : Nat) : (leBytes k c).length = k := by
  induction k generalizing c with
  | zero => rfl
  | succ k ih => simp [leBytes, ih]

theorem leBytes_getElem? (k c j : Nat) (h : j < k) : (leBytes k c)[j]? = some ((c >>> (8 * j)) &&& 255) := by
  induction k generalizing c j with
  | zero => omega
  | succ k ih =>
    cases j with
    | zero => exact congrArg some (Nat.and_two_pow_sub_one_eq_mod c 8).symm
    | succ j =>
      rw [leBytes, List.getElem?_cons_succ, ih _ j (by omega), Nat.mul_succ, Nat.add_comm, Nat.shiftRight_add,
        Nat.shiftRight_eq_div_pow c 8]

/-- `t.textSlice?` for the decoder. The model's slice costs the kernel a `range`, a `map` and a walk
down the chunk list per byte; a slice that lies within one chunk is read off that chunk's number instead.
Anything else goes the model's way. -/
def Table.textSliceF (t : Table) (offset length : Nat) : Option Str :=
  if offset ≤ t.textLen ∧ length ≤ t.textLen - offset then
    if offset % chunkBytes + length ≤ chunkBytes then
      match t.text[offset / chunkBytes]? with
      | some c => some (leBytes length (c >>> (8 * (offset % chunkBytes))))
      | none => t.textSlice? offset length
    else t.textSlice? offset length
  else none

/-- `nodeLabel?` on the fast slice -/
def nodeLabelF (t : Table) (i : Nat) : Option Str :=
  match t.node? i with
  | none => none
  | some x =>
    let length := x &&& mask t.bitsTextLength
    let x := x >>> t.bitsTextLength
    let offset := x &&& mask t.bitsTextOffset
    t.textSliceF offset length

theorem leBytes_shiftRight (chunks : List Nat) (q c o len : Nat) (hc : chunks[q]? = some c)
    (h : o + len ≤ chunkBytes) :
    leBytes len (c >>> (8 * o)) = (List.range len).map (fun j => packedByte chunks (q * chunkBytes + o + j)) := by
  apply List.ext_getElem?
  intro j
  rw [List.getElem?_map]
  by_cases hj : j < len
  · rw [leBytes_getElem? _ _ _ hj, List.getElem?_range hj, Option.map_some, packedByte, Nat.add_assoc,
      Nat.add_comm, Nat.add_mul_div_right _ _ (by decide), Nat.add_mul_mod_self_right,
      Nat.div_eq_of_lt (by omega), Nat.mod_eq_of_lt (by omega), Nat.zero_add, hc, Nat.mul_add, ← Nat.shiftRight_add]
  · rw [List.getElem?_eq_none (by rw [leBytes_length]; omega), List.getElem?_eq_none (by simpa using hj)]
    rfl

theorem Table.textSliceF_eq (t : Table) (offset length : Nat) :
    t.textSliceF offset length = t.textSlice? offset length := by
  unfold Table.textSliceF
  split
  · split
    · split
      · rename_i hb hfit _ c hc
        rw [Table.textSlice?, if_pos hb, leBytes_shiftRight t.text _ c _ _ hc hfit, Nat.div_add_mod']
        rfl
      · rfl
    · rfl
  · rename_i hb
    rw [Table.textSlice?, if_neg hb]

theorem nodeLabelF_eq (t : Table) (i : Nat) : nodeLabelF t i = nodeLabel? t i := by
  unfold nodeLabelF nodeLabel?
  cases t.node? i with
  | none => rfl
  | some x => exact Table.textSliceF_eq ..

/-- Decode `n` sibling nodes starting at index `i`; `dec` decodes a child range. Fails (`none`) if an
index is out of range, a child range is reversed, labels are not strictly increasing, or (`top`) a
top-level node is an exception node. -/
def decodeSibs (t : Table) (dec : Nat → Nat → Option Forest) (top : Bool) : Nat → Nat → Option Forest
  | 0, _ => some .nil
  | n + 1, i =>
    match nodeLabelF t i, childInfo? t i with
    | some l, some (lo, hi, ty, w) =>
      if top && (kindOf t ty == .exception) then none else
      match dec lo hi, decodeSibs t dec top n (i + 1) with
      | some ch, some sib =>
        match sib with
        | .nil => some (.cons l (kindOf t ty) w ch sib)
        | .cons l2 _ _ _ _ => if strLt l l2 then some (.cons l (kindOf t ty) w ch sib) else none
      | _, _ => none
    | _, _ => none

def decodeRange (t : Table) : Nat → Nat → Nat → Option Forest
  | 0, lo, hi => if lo = hi then some .nil else none
  | fuel + 1, lo, hi => if hi < lo then none else decodeSibs t (decodeRange t fuel) false (hi - lo) lo

def decodeTable (t : Table) (depth : Nat) : Option Forest :=
  decodeSibs t (decodeRange t depth) true t.numTld 0

theorem decodeSibs_dec (t : Table) (dec : Nat → Nat → Option Forest) (top : Bool)
    (hdec : ∀ lo hi f, dec lo hi = some f → Dec t false lo hi f) (n i : Nat) (f : Forest)
    (h : decodeSibs t dec top n i = some f) : Dec t top i (i + n) f := by
  fun_induction decodeSibs t dec top n i generalizing f with
  | case1 i => cases h; exact .nil top i
  | case3 n i l lo hi ty w hc hl htop ch hch hsib ih =>
    cases h
    have hs := ih _ hsib
    rw [Nat.add_right_comm, Nat.add_assoc] at hs
    exact .cons (nodeLabelF_eq t i ▸ hl) hc (by simpa using htop) (hdec _ _ _ hch) hs (fun _ e => by cases e)
  | case4 n i l lo hi ty w hc hl htop ch hch l2 k w' c s hlt hsib ih =>
    cases h
    have hs := ih _ hsib
    rw [Nat.add_right_comm, Nat.add_assoc] at hs
    exact .cons (nodeLabelF_eq t i ▸ hl) hc (by simpa using htop) (hdec _ _ _ hch) hs (fun _ e => by cases e; exact hlt)
  | case2 | case5 | case6 | case7 => cases h

theorem decodeRange_dec (t : Table) :
    ∀ (depth lo hi : Nat) (f : Forest), decodeRange t depth lo hi = some f → Dec t false lo hi f := by
  intro depth
  induction depth with
  | zero =>
    intro lo hi f h
    simp only [decodeRange] at h
    split at h
    · rename_i e; cases h; subst e; exact .nil false lo
    · cases h
  | succ d ih =>
    intro lo hi f h
    simp only [decodeRange] at h
    split at h
    · cases h
    · have := decodeSibs_dec t _ false ih _ _ f h
      rwa [show lo + (hi - lo) = hi by omega] at this

theorem dec_of_decodeTable {t : Table} {depth : Nat} {R : List Rule}
    (h : (decodeTable t depth).map Forest.rules = some R) : ∃ f, Dec t true 0 t.numTld f ∧ f.rules = R := by
  cases hd : decodeTable t depth with
  | none => rw [hd] at h; cases h
  | some f =>
    rw [hd] at h
    have := decodeSibs_dec t _ true (decodeRange_dec t depth) _ _ f hd
    rw [Nat.zero_add] at this
    exact ⟨f, this, Option.some.inj h⟩

end PasskeyVerif.Psl
