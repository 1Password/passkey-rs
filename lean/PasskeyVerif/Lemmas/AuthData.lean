/-
Lemmas next to Model/AuthData.lean and Model/AuthDataCbor.lean: masks on the flag byte, `Flags::from_bits`, the
big-endian fields, `to_vec` / `from_slice` on inputs laid out as `rpIdHash ‖ flags ‖ counter ‖ rest`, the interface
through which third-party CBOR code enters (Props/C12), and that interface met by the reader the driver runs.
-/
import PasskeyVerif.Model.AuthDataCbor
import PasskeyVerif.Lemmas.Cbor
namespace PasskeyVerif.AuthData
open PasskeyVerif.Generated

theorem and_or_distrib_right (a b c : UInt8) : (a ||| b) &&& c = (a &&& c) ||| (b &&& c) :=
  UInt8.toBitVec_inj.1 BitVec.and_or_distrib_right

theorem or_and_self (f m : UInt8) : (f ||| m) &&& m = m := by
  apply UInt8.toBitVec_inj.1
  ext i hi
  simp only [UInt8.toBitVec_and, UInt8.toBitVec_or, BitVec.getElem_and, BitVec.getElem_or]
  cases f.toBitVec[i] <;> cases m.toBitVec[i] <;> rfl

theorem and_eq_zero_of_sub (e m m' : UInt8) (h : e &&& m' = 0) (hm : m' &&& m = m) : e &&& m = 0 := by
  rw [← hm, ← UInt8.and_assoc, h, UInt8.zero_and]

theorem or_and_of_disjoint (f m k : UInt8) (h : m &&& k = 0) : (f ||| m) &&& k = f &&& k := by
  rw [and_or_distrib_right, h, UInt8.or_zero]

theorem or_right_comm8 (a b c : UInt8) : a ||| b ||| c = a ||| c ||| b := by
  rw [UInt8.or_assoc, UInt8.or_comm b c, ← UInt8.or_assoc]

theorem or_ED_has_ED : ∀ f : UInt8, (f ||| Flags.ED) &&& Flags.ED = Flags.ED :=
  fun f => or_and_self f _

theorem fromBits_eq_some (b : UInt8) : fromBits b = some b ↔ b &&& ~~~Flags.ALL = 0 := by
  unfold fromBits; split <;> simp [*]

theorem fromBits_some {b f : UInt8} (h : fromBits b = some f) : f = b := by
  unfold fromBits at h; split at h <;> cases h; rfl

theorem fromBits_or (f m : UInt8) (hf : fromBits f = some f) (hm : fromBits m = some m) : fromBits (f ||| m) = some (f ||| m) := by
  rw [fromBits_eq_some] at *
  rw [and_or_distrib_right, hf, hm, UInt8.or_zero]

/-- bits 1 and 5 are outside the declared flags -/
theorem fromBits_reserved (fb : UInt8) (h : fb &&& 34 ≠ 0) : fromBits fb = none :=
  if_neg fun h0 => h (and_eq_zero_of_sub fb 34 _ h0 (by decide))

theorem be16_roundtrip (n : Nat) (h : n ≤ 65535) :
    ofBe16 (UInt8.ofNat (n / 256)) (UInt8.ofNat (n % 256)) = n := by
  simp [ofBe16, UInt8.toNat_ofNat']; omega

theorem be32_eq_beBytes (n : Nat) (h : n < 4294967296) : be32 n = Cbor.beBytes 4 n := by
  have : n / 16777216 % 256 = n / 16777216 := Nat.mod_eq_of_lt (by omega)
  simp [be32, Cbor.beBytes, List.range_succ, Nat.shiftRight_eq_div_pow, this]

theorem ofBe32_eq (a b c d : UInt8) : ofBe32 a b c d = Cbor.ofBe [a, b, c, d] := by
  simp only [ofBe32, Cbor.ofBe, List.foldl]
  omega

theorem be32_roundtrip (n : Nat) (h : n < 4294967296) :
    ofBe32 (UInt8.ofNat (n / 16777216)) (UInt8.ofNat (n / 65536 % 256)) (UInt8.ofNat (n / 256 % 256))
      (UInt8.ofNat (n % 256)) = n := by
  rw [ofBe32_eq]
  exact (congrArg Cbor.ofBe (be32_eq_beBytes n h)).trans (Cbor.ofBe_beBytes 4 n h)

/-- parameters standing for third-party CBOR code -/
structure CborIface where
  skip : Bytes → Option Nat
  validKey : Bytes → Bool
  IsItem : Bytes → Prop
  /-- the reader consumes exactly one item, whatever follows it -/
  skip_item : ∀ item rest, IsItem item → skip (item ++ rest) = some item.length
  /-- no proper prefix of an item is accepted -/
  skip_prefix : ∀ item p q, IsItem item → item = p ++ q → q ≠ [] → skip p = none

/-- values for which encoding and decoding is specified -/
structure WF (I : CborIface) (a : AuthData) : Prop where
  hash : a.rpIdHash.length = 32
  counter : a.counter.getD 0 < 4294967296
  flagsOk : fromBits a.flags = some a.flags
  atIff : a.acd.isSome = true ∨ a.flags &&& Flags.AT ≠ Flags.AT
  edIff : (a.ext.isSome = true ∧ a.flags &&& Flags.ED = Flags.ED) ∨ (a.ext = none ∧ a.flags &&& Flags.ED ≠ Flags.ED)
  acdOk : ∀ c, a.acd = some c → c.aaguid.length = 16 ∧ c.credId.length ≤ 65535 ∧ I.IsItem c.key ∧ I.validKey c.key = true
  extOk : ∀ e, a.ext = some e → I.IsItem e

/-- **Layout** of `to_vec`, in both directions: it fails only on a credential id too long for its length field (the
`unwrap` in `into_iter`), and otherwise writes `rpIdHash ‖ flags ‖ counter ‖ [attested section] ‖ [extensions]`. -/
theorem toVec_eq_some_iff (a : AuthData) (bs : Bytes) :
    a.toVec = some bs ↔ (∀ c, a.acd = some c → c.credId.length ≤ 65535) ∧
      bs = a.rpIdHash ++ [if a.acd.isSome then a.flags ||| Flags.AT else a.flags]
        ++ be32 (a.counter.getD 0)
        ++ (match a.acd with
            | some c => c.aaguid ++ be16 c.credId.length ++ c.credId ++ c.key
            | none => [])
        ++ a.ext.getD [] := by
  unfold AuthData.toVec
  cases a.acd with
  | none => exact ⟨fun h => ⟨nofun, (Option.some.inj h).symm⟩, fun h => congrArg some h.2.symm⟩
  | some c =>
    simp only [Acd.toBytes, Option.some.injEq, forall_eq']
    by_cases hid : c.credId.length ≤ 65535
    · rw [if_pos hid]
      exact ⟨fun h => ⟨hid, (Option.some.inj h).symm⟩, fun h => congrArg some h.2.symm⟩
    · rw [if_neg hid]
      exact ⟨nofun, fun h => absurd h.1 hid⟩

theorem toVec_header {a : AuthData} {bs : Bytes} (h : a.toVec = some bs) :
    ∃ tail, bs = a.rpIdHash ++ (if a.acd.isSome then a.flags ||| Flags.AT else a.flags) :: (be32 (a.counter.getD 0) ++ tail) := by
  obtain ⟨_, rfl⟩ := (toVec_eq_some_iff a bs).1 h
  exact ⟨_, by rw [List.append_assoc, List.append_assoc, List.append_assoc]; rfl⟩

theorem fromSlice_short (skip : Bytes → Option Nat) (vk : Bytes → Bool) (v : Bytes) (h : v.length < 37) :
    AuthData.fromSlice skip vk v = .error .tooShort := by
  unfold AuthData.fromSlice; rw [if_pos h]

theorem fromSlice_header (skip : Bytes → Option Nat) (vk : Bytes → Bool) (hash : Bytes) (fb c0 c1 c2 c3 : UInt8) (rest : Bytes)
    (hh : hash.length = 32) :
    AuthData.fromSlice skip vk (hash ++ fb :: c0 :: c1 :: c2 :: c3 :: rest) =
      match fromBits fb with
      | none => .error .badFlags
      | some _ =>
        match (if fb &&& Flags.AT = Flags.AT then
            match Acd.fromReader skip vk rest with
            | .ok (c, r) => .ok (some c, r)
            | .error e => .error e
          else .ok (none, rest) : Except DecErr (Option Acd × Bytes)) with
        | .error e => .error e
        | .ok (acd, rest) =>
          if fb &&& Flags.ED = Flags.ED then
            match skip rest with
            | none => .error .extInvalid
            | some n => .ok { rpIdHash := hash, flags := fb, counter := some (ofBe32 c0 c1 c2 c3), acd, ext := some (rest.take n) }
          else .ok { rpIdHash := hash, flags := fb, counter := some (ofBe32 c0 c1 c2 c3), acd, ext := none } := by
  unfold AuthData.fromSlice
  rw [if_neg (by simp [hh]; omega), List.take_left' hh, List.drop_left' hh]
  dsimp only
  cases hfb : fromBits fb with
  | none => rfl
  | some f => cases fromBits_some hfb; rfl

/-- with `fromSlice_short` and `fromSlice_header`: every input is too short or has the header's shape -/
theorem header_split (v : Bytes) (h : ¬ v.length < 37) :
    ∃ hash fb c0 c1 c2 c3 rest, hash.length = 32 ∧ v = hash ++ fb :: c0 :: c1 :: c2 :: c3 :: rest := by
  refine ⟨v.take 32, v[32], v[33], v[34], v[35], v[36], v.drop 37, by rw [List.length_take]; omega, ?_⟩
  rw [← List.drop_eq_getElem_cons, ← List.drop_eq_getElem_cons, ← List.drop_eq_getElem_cons, ← List.drop_eq_getElem_cons,
    ← List.drop_eq_getElem_cons, List.take_append_drop]

theorem acd_roundtrip (I : CborIface) (c : Acd) (rest : Bytes)
    (h1 : c.aaguid.length = 16) (h2 : c.credId.length ≤ 65535) (h3 : I.IsItem c.key) (h4 : I.validKey c.key = true) :
    Acd.fromReader I.skip I.validKey (c.aaguid ++ be16 c.credId.length ++ c.credId ++ c.key ++ rest) = .ok (c, rest) := by
  unfold Acd.fromReader
  simp only [List.append_assoc, be16, List.cons_append, List.nil_append]
  rw [if_neg (by simp [h1]), List.take_left' h1, List.drop_left' h1]
  dsimp only
  rw [be16_roundtrip _ h2, if_neg (by simp), List.take_left' rfl, List.drop_left' rfl, I.skip_item c.key rest h3]
  simp only [List.take_left' rfl, List.drop_left' rfl, h4, if_true]

theorem cut_after {α} {a b p q : List α} (h : a ++ b = p ++ q) (hl : a.length ≤ p.length) : ∃ p', p = a ++ p' ∧ b = p' ++ q := by
  obtain ⟨p', rfl⟩ := List.prefix_of_prefix_length_le (h ▸ List.prefix_append a b) (List.prefix_append p q) hl
  exact ⟨p', rfl, List.append_cancel_left (by rw [h, List.append_assoc])⟩

theorem acd_truncated (I : CborIface) (c : Acd) (h1 : c.aaguid.length = 16) (h2 : c.credId.length ≤ 65535) (h3 : I.IsItem c.key)
    (p q : Bytes) (hpq : c.aaguid ++ be16 c.credId.length ++ c.credId ++ c.key = p ++ q) (hq : q ≠ []) :
    ∃ e, Acd.fromReader I.skip I.validKey p = .error e := by
  unfold Acd.fromReader
  split
  · exact ⟨_, rfl⟩
  -- the cut is after the AAGUID
  · rw [List.append_assoc, List.append_assoc] at hpq
    obtain ⟨p1, rfl, hp1⟩ := cut_after hpq (by omega)
    rw [List.take_left' h1, List.drop_left' h1]
    dsimp only
    match p1, hp1 with
    | [], _ => exact ⟨_, rfl⟩
    | [_], _ => exact ⟨_, rfl⟩
    | l0 :: l1 :: p2, hp1 =>
      simp only [be16, List.cons_append, List.nil_append, List.cons.injEq] at hp1
      obtain ⟨rfl, rfl, hp2⟩ := hp1
      dsimp only
      rw [be16_roundtrip _ h2]
      split
      · exact ⟨_, rfl⟩
      -- the cut is after the credential id, so inside the key
      · obtain ⟨p3, rfl, hp3⟩ := cut_after hp2 (by omega)
        rw [List.drop_left' rfl, I.skip_prefix c.key p3 q h3 hp3 hq]
        exact ⟨_, rfl⟩

theorem Acd.fromReader_bound (skip : Bytes → Option Nat) (vk : Bytes → Bool) (v : Bytes) (c : Acd) (r : Bytes)
    (h : Acd.fromReader skip vk v = .ok (c, r)) :
    c.aaguid.length + 2 + c.credId.length + c.key.length + r.length ≤ v.length := by
  revert h
  fun_cases Acd.fromReader skip vk v with
  | case4 _ _ _ l0 l1 v' hv _ _ _ _ n _ _ =>
    intro h; cases h
    have hl := congrArg List.length hv
    simp +zetaDelta only [List.length_take, List.length_drop, List.length_cons] at *
    omega
  | _ => intro h; cases h

/-- bytes a parsed value holds -/
def Acd.held (c : Acd) : Nat := c.aaguid.length + 2 + c.credId.length + c.key.length
def acdHeld : Option Acd → Nat
  | some c => c.held
  | none => 0
def AuthData.held (a : AuthData) : Nat := a.rpIdHash.length + 5 + acdHeld a.acd + (a.ext.getD []).length

theorem AuthData.fromSlice_bound (skip : Bytes → Option Nat) (vk : Bytes → Bool) (v : Bytes) (a : AuthData)
    (h : AuthData.fromSlice skip vk v = .ok a) : a.held ≤ v.length := by
  by_cases h37 : v.length < 37
  · rw [fromSlice_short _ _ _ h37] at h; cases h
  obtain ⟨hash, fb, c0, c1, c2, c3, rest, hh, rfl⟩ := header_split v h37
  rw [fromSlice_header _ _ _ _ _ _ _ _ _ hh] at h
  split at h
  · cases h
  · split at h
    · cases h
    · rename_i acd rest' hacd
      -- the attested section, if any, and what follows it fit in what followed the header
      have hacd' : acdHeld acd + rest'.length ≤ rest.length := by
        split at hacd
        · split at hacd
          · rename_i c r hr
            cases hacd
            exact Acd.fromReader_bound skip vk rest _ _ hr
          · cases hacd
        · cases hacd
          exact Nat.le_of_eq (Nat.zero_add _)
      simp only [List.length_append, List.length_cons]
      split at h
      · split at h
        · cases h
        · cases h
          simp only [AuthData.held, Option.getD_some, List.length_take]
          omega
      · cases h
        simp only [AuthData.held, Option.getD_none, List.length_nil]
        omega
section
open PasskeyVerif.Cbor

/-- encodings of well-formed items that ciborium's recursion limit lets through -/
def IsCborItem (bs : Bytes) : Prop := ∃ x : Item, x.WF = true ∧ x.depth ≤ 256 ∧ bs = encode x

theorem skip_item (item rest : Bytes) (h : IsCborItem item) : skip (item ++ rest) = some item.length := by
  obtain ⟨x, hwf, hd, rfl⟩ := h
  unfold skip
  rw [decode1_encode x hwf rest]
  have : ¬ x.depth > 256 := by omega
  simp only [this, if_false, List.length_append]
  congr 1; omega

theorem skip_prefix (item p q : Bytes) (h : IsCborItem item) (he : item = p ++ q) (hq : q ≠ []) : skip p = none := by
  obtain ⟨x, hwf, _, rfl⟩ := h
  unfold skip decode1
  rw [decode_prefix x hwf p q he hq]

/-- the reader of Model/AuthDataCbor.lean meets the interface the C12 theorems are stated over -/
def cborIface : CborIface where
  skip := skip
  validKey := validKey
  IsItem := IsCborItem
  skip_item := skip_item
  skip_prefix := skip_prefix

/-- a COSE key: the encoding of a well-formed map with a key type is accepted -/
theorem validKey_encode (kvs : List (Item × Item)) (h : (Item.map kvs).WF = true) (h1 : (mapGetInt kvs 1).isSome = true) :
    validKey (encode (.map kvs)) = true := by
  unfold validKey
  have := decode1_encode (.map kvs) h []
  rw [List.append_nil] at this
  rw [this]
  exact h1

end

end PasskeyVerif.AuthData
