/-
The label trie that stands between the packed table and the rule list: its type, the rules it stands
for, and the relation `Dec` saying that a range of table nodes is a given trie. Definitions only; the
theorems about walking the trie are in `PslWalk.lean`.
-/
import PasskeyVerif.Spec.Psl
namespace PasskeyVerif.Psl
open Spec

inductive NKind where
  | normal | exception | parentOnly
  deriving DecidableEq, Repr

/-- first-child / next-sibling forest of label nodes -/
inductive Forest where
  | nil : Forest
  | cons (label : Label) (kind : NKind) (wild : Bool) (children : Forest) (sibs : Forest) : Forest
  deriving Repr

def Forest.lookup : Forest → Label → Option (NKind × Bool × Forest)
  | .nil, _ => none
  | .cons l k w ch sib, x => if l = x then some (k, w, ch) else sib.lookup x

def Forest.labels : Forest → List Label
  | .nil => []
  | .cons l _ _ _ sib => l :: sib.labels

def Forest.WF : Forest → Prop
  | .nil => True
  | .cons l _ _ ch sib => l ∉ sib.labels ∧ ch.WF ∧ sib.WF

def prepend (l : Label) (r : Rule) : Rule := { r with labels := l :: r.labels }

def ownRules (k : NKind) (l : Label) : List Rule :=
  match k with
  | .normal => [⟨[l], .normal⟩]
  | .exception => [⟨[l], .exception⟩]
  | .parentOnly => []

/-- the rules a forest stands for, in pre-order: own rule, wildcard rule, children, then siblings -/
def Forest.rules : Forest → List Rule
  | .nil => []
  | .cons l k w ch sib =>
    ownRules k l ++ (if w then [⟨[l], .wildcard⟩] else []) ++ ch.rules.map (prepend l) ++ sib.rules

/-- node type as the loop's `match` reads it (normal is tested first) -/
def kindOf (t : Table) (ty : Nat) : NKind :=
  if ty = t.typeNormal then .normal else if ty = t.typeException then .exception else .parentOnly

/-- The nodes `lo..hi` of the table are the sibling list `f`, their child ranges its subtrees, each
label below its right neighbour's; `top`: no exception node among them. -/
inductive Dec (t : Table) : Bool → Nat → Nat → Forest → Prop
  | nil (top : Bool) (lo : Nat) : Dec t top lo lo .nil
  | cons {top : Bool} {lo hi clo chi ty : Nat} {l : Label} {w : Bool} {ch sib : Forest} :
      nodeLabel? t lo = some l → childInfo? t lo = some (clo, chi, ty, w) →
      (top = true → kindOf t ty ≠ .exception) →
      Dec t false clo chi ch → Dec t top (lo + 1) hi sib →
      (∀ l', sib.labels.head? = some l' → strLt l l' = true) →
      Dec t top lo hi (.cons l (kindOf t ty) w ch sib)

end PasskeyVerif.Psl
