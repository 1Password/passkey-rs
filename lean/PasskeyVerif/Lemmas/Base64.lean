/- Base64 (RFC 4648) round trip for the model of passkey-types/src/utils/encoding.rs and `Bytes::try_from(&str)`. -/
import PasskeyVerif.Base.Base64
namespace PasskeyVerif.Base64

/-- the 6-bit groups of a byte string (the indices `encodeChars` looks up) -/
def sextets : Bytes → List Nat
  | a :: b :: c :: rest =>
    let n := a.toNat * 65536 + b.toNat * 256 + c.toNat
    (n / 262144) :: (n / 4096 % 64) :: (n / 64 % 64) :: (n % 64) :: sextets rest
  | [a, b] =>
    let n := a.toNat * 65536 + b.toNat * 256
    [n / 262144, n / 4096 % 64, n / 64 % 64]
  | [a] =>
    let n := a.toNat * 65536
    [n / 262144, n / 4096 % 64]
  | [] => []

theorem encodeChars_eq (url : Bool) (bs : Bytes) : encodeChars url bs = (sextets bs).map (sextet url) := by
  fun_induction sextets bs with
  | case1 a b c rest n ih => simp only [encodeChars, List.map_cons, ih]; rfl
  | case2 a b n => rfl
  | case3 a n => rfl
  | case4 => rfl

/- One 24-bit group `n = a·2¹⁶ + b·2⁸ + c`, its base-64 digits and its bytes.  The facts about digits are about a bare
number `n`, and the bytes are put in last: `omega` is slow on these quotients when `n` is a sum of products, and the
kernel, asked to compare such terms, unfolds `Nat.mul` on the literals. -/

theorem group_sextets (n : Nat) : n / 262144 * 262144 + n / 4096 % 64 * 4096 + n / 64 % 64 * 64 + n % 64 = n := by omega

theorem group_bytes {a b c n : Nat} (hn : n = a * 65536 + b * 256 + c) (hb : b < 256) (hc : c < 256) :
    n / 65536 = a ∧ n / 256 % 256 = b ∧ n % 256 = c := by
  omega

theorem decodeVals_group (strict : Bool) (n : Nat) (rest : List Nat) :
    decodeVals strict (n / 262144 :: n / 4096 % 64 :: n / 64 % 64 :: n % 64 :: rest)
      = (decodeVals strict rest).map (fun bs => UInt8.ofNat (n / 65536) :: UInt8.ofNat (n / 256 % 256) :: UInt8.ofNat (n % 256) :: bs) := by
  simp only [decodeVals, group_sextets]
  cases decodeVals strict rest <;> rfl

theorem decodeVals_group₃ (strict : Bool) (n : Nat) (h : n % 256 = 0) :
    decodeVals strict [n / 262144, n / 4096 % 64, n / 64 % 64] = some [UInt8.ofNat (n / 65536), UInt8.ofNat (n / 256 % 256)] := by
  -- the digit that is not written is zero, and so are the trailing bits of the last one, which the strict check looks at
  have ⟨h0, hz⟩ : n % 64 = 0 ∧ n / 64 % 64 % 4 = 0 := by omega
  have e := group_sextets n
  rw [h0, Nat.add_zero] at e
  simp [decodeVals, e, hz]

theorem decodeVals_group₂ (strict : Bool) (n : Nat) (h : n % 65536 = 0) :
    decodeVals strict [n / 262144, n / 4096 % 64] = some [UInt8.ofNat (n / 65536)] := by
  have ⟨h0, h0', hz⟩ : n % 64 = 0 ∧ n / 64 % 64 = 0 ∧ n / 4096 % 64 % 16 = 0 := by omega
  have e := group_sextets n
  rw [h0, h0', Nat.zero_mul, Nat.add_zero] at e
  simp [decodeVals, e, hz]

theorem sextets_lt (bs : Bytes) : ∀ v ∈ sextets bs, v < 64 := by
  have m (k : Nat) : k % 64 < 64 := Nat.mod_lt k (by decide)
  fun_induction sextets bs with
  | case1 a b c rest n ih =>
    have := a.toNat_lt; have := b.toNat_lt; have := c.toNat_lt
    simp only [List.forall_mem_cons]
    exact ⟨by omega, m _, m _, m _, ih⟩
  | case2 a b n =>
    have := a.toNat_lt; have := b.toNat_lt
    simp only [List.forall_mem_cons]
    exact ⟨by omega, m _, m _, List.forall_mem_nil _⟩
  | case3 a n =>
    have := a.toNat_lt
    simp only [List.forall_mem_cons]
    exact ⟨by omega, m _, List.forall_mem_nil _⟩
  | case4 => exact List.forall_mem_nil _

theorem decodeVals_sextets (strict : Bool) (bs : Bytes) : decodeVals strict (sextets bs) = some bs := by
  fun_induction sextets bs with
  | case1 a b c rest n ih =>
    obtain ⟨h1, h2, h3⟩ := group_bytes (n := n) rfl b.toNat_lt c.toNat_lt
    rw [decodeVals_group, ih, h1, h2, h3]
    simp only [Option.map_some, UInt8.ofNat_toNat]
  | case2 a b n =>
    obtain ⟨h1, h2, h3⟩ := group_bytes (c := 0) (Nat.add_zero n).symm b.toNat_lt (by decide)
    rw [decodeVals_group₃ strict n h3, h1, h2]
    simp only [UInt8.ofNat_toNat]
  | case3 a n =>
    rw [decodeVals_group₂ strict n (Nat.mul_mod_left _ _), show n / 65536 = a.toNat from Nat.mul_div_cancel _ (by decide)]
    simp only [UInt8.ofNat_toNat]
  | case4 => rfl

/-- the only fact read off the two tables by evaluation (4 × 64 cases); what else is needed of the alphabets follows from it -/
theorem valueOf_sextet_cross (u u' : Bool) (n : Nat) (h : n < 64) :
    valueOf u' (sextet u n) = some n ∨ (u ≠ u' ∧ valueOf u' (sextet u n) = none) := by
  have key : ∀ u u' : Bool, ∀ k : Fin 64,
      valueOf u' (sextet u k.val) = some k.val ∨ (u ≠ u' ∧ valueOf u' (sextet u k.val) = none) := by decide +kernel
  exact key u u' ⟨n, h⟩

theorem valueOf_sextet (url : Bool) (n : Nat) (h : n < 64) : valueOf url (sextet url n) = some n :=
  (valueOf_sextet_cross url url n h).resolve_right (fun h => h.1 rfl)

theorem mapM_valueOf (u u' : Bool) (vs : List Nat) (h : ∀ v ∈ vs, v < 64) :
    (vs.map (sextet u)).mapM (valueOf u') = some vs ∨ (u ≠ u' ∧ (vs.map (sextet u)).mapM (valueOf u') = none) := by
  induction vs with
  | nil => exact Or.inl rfl
  | cons v vs ih =>
    simp only [List.map_cons, List.mapM_cons]
    rcases valueOf_sextet_cross u u' v (h v (by simp)) with hv | ⟨hu, hv⟩
    · rw [hv]
      rcases ih (fun x hx => h x (by simp [hx])) with hr | ⟨hu, hr⟩
      · rw [hr]; exact Or.inl rfl
      · rw [hr]; exact Or.inr ⟨hu, rfl⟩
    · rw [hv]; exact Or.inr ⟨hu, rfl⟩

theorem valueOf_encodeChars (url : Bool) (bs : Bytes) : ∀ c ∈ encodeChars url bs, valueOf url c ≠ none := by
  rw [encodeChars_eq]
  intro c hc
  obtain ⟨v, hv, rfl⟩ := List.mem_map.mp hc
  rw [valueOf_sextet url v (sextets_lt bs v hv)]
  exact Option.some_ne_none v

theorem encodeChars_no_pad (url : Bool) (bs : Bytes) : ∀ c ∈ encodeChars url bs, c ≠ '=' := by
  rintro c hc rfl
  exact valueOf_encodeChars url bs _ hc (by cases url <;> decide)

theorem trimPad_append_pad (cs : List Char) (k : Nat) (h : ∀ c ∈ cs, c ≠ '=') : trimPad (cs ++ List.replicate k '=') = cs := by
  unfold trimPad
  rw [List.reverse_append, List.reverse_replicate, List.dropWhile_append_of_pos (by simp)]
  cases hr : cs.reverse with
  | nil => simpa using hr
  | cons c r =>
    have hc : c ≠ '=' := h c (List.mem_reverse.mp (hr ▸ List.mem_cons_self))
    rw [List.dropWhile_cons_of_neg (by simpa using hc), ← hr, List.reverse_reverse]

theorem decodeWith_encode_cross (u u' strict : Bool) (bs : Bytes) (k : Nat) :
    decodeWith u' strict (encodeChars u bs ++ List.replicate k '=') = some bs
      ∨ (u ≠ u' ∧ decodeWith u' strict (encodeChars u bs ++ List.replicate k '=') = none) := by
  unfold decodeWith
  rw [trimPad_append_pad _ k (encodeChars_no_pad u bs), encodeChars_eq]
  rcases mapM_valueOf u u' _ (sextets_lt bs) with h | ⟨hu, h⟩
  · rw [h]; exact Or.inl (decodeVals_sextets strict bs)
  · rw [h]; exact Or.inr ⟨hu, rfl⟩

theorem decodeWith_encode (url strict : Bool) (bs : Bytes) (k : Nat) :
    decodeWith url strict (encodeChars url bs ++ List.replicate k '=') = some bs :=
  (decodeWith_encode_cross url url strict bs k).resolve_right (fun h => h.1 rfl)

/-- **`Bytes::try_from(&str)` inverts both encoders**: text of either alphabet, with or without padding, decodes
to the bytes it encodes — for every byte string. -/
theorem decodeLenient_encode (url : Bool) (bs : Bytes) (k : Nat) :
    decodeLenient (String.ofList (encodeChars url bs ++ List.replicate k '=')) = some bs := by
  unfold decodeLenient
  rw [String.toList_ofList]
  -- first attempt: the url alphabet, trailing bits unchecked; it can only fail on text of the standard alphabet
  rcases decodeWith_encode_cross url true false bs k with h | ⟨hu, h⟩
  · rw [h]
  · rw [h, (Bool.eq_false_iff.mpr hu : url = false)]
    exact decodeWith_encode false true bs k

theorem decodeLenient_encodeUrl (bs : Bytes) : decodeLenient (encodeUrl bs) = some bs := by
  have := decodeLenient_encode true bs 0
  rwa [List.replicate_zero, List.append_nil] at this

/-! Size (Props/C15): decoded bytes number at most three quarters of the characters. -/

theorem decodeVals_length (strict : Bool) (vs : List Nat) : ∀ bs, decodeVals strict vs = some bs → 4 * bs.length ≤ 3 * vs.length := by
  fun_induction decodeVals strict vs with
  | case1 a b c d rest n bs' hr ih =>
    intro bs h
    cases h
    have := ih bs' hr
    simp only [List.length_cons]
    omega
  | case2 => intro bs h; cases h
  | case3 => intro bs h; cases h
  | case4 => intro bs h; cases h; simp
  | case5 => intro bs h; cases h
  | case6 => intro bs h; cases h; simp
  | case7 => intro bs h; cases h
  | case8 => intro bs h; cases h; simp

theorem mapM_length {α β : Type} (f : α → Option β) : ∀ (l : List α) (r : List β), l.mapM f = some r → r.length = l.length
  | [], r, h => by cases h; rfl
  | x :: xs, r, h => by
    simp only [List.mapM_cons, Option.pure_def, Option.bind_eq_bind, Option.bind_eq_some_iff, Option.some.injEq] at h
    obtain ⟨y, _, ys, hys, rfl⟩ := h
    rw [List.length_cons, List.length_cons, mapM_length f xs ys hys]

theorem trimPad_length (cs : List Char) : (trimPad cs).length ≤ cs.length := by
  unfold trimPad
  rw [List.length_reverse]
  have := (List.dropWhile_sublist (fun x => decide (x = '=')) (l := cs.reverse)).length_le
  simpa using this

theorem decodeWith_length (url strict : Bool) (cs : List Char) (bs : Bytes) (h : decodeWith url strict cs = some bs) :
    4 * bs.length ≤ 3 * cs.length := by
  unfold decodeWith at h
  split at h
  · rename_i vs hv
    have a := decodeVals_length strict vs bs h
    have b := mapM_length _ _ _ hv
    have c := trimPad_length cs
    omega
  · cases h

theorem decodeLenient_length (s : String) (bs : Bytes) (h : decodeLenient s = some bs) : 4 * bs.length ≤ 3 * s.toList.length := by
  unfold decodeLenient at h
  split at h
  · rename_i b hb
    cases h
    exact decodeWith_length _ _ _ _ hb
  · exact decodeWith_length _ _ _ _ h

end PasskeyVerif.Base64
