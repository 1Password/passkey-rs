/- The U2F model in closed form (Props/C17, C15): registration as its one save, lookup after save on the three
stores, and the request parser as the cutting of the frame followed by the switch on instruction and control byte. -/
import PasskeyVerif.Lemmas.Auth
import PasskeyVerif.Model.U2f
namespace PasskeyVerif.U2f
open PasskeyVerif PasskeyVerif.Auth
open PasskeyVerif.AuthData (Bytes)

theorem register_eq (s : Store) (k : Key) (app chal handle : Bytes) :
    register s k app chal handle =
      match s.fault? with
      | some e => (.error .other, s.tick, [.save (u2fPasskey app handle k) handle false false false (some e)])
      | none => (.ok ⟨k, handle, [], ⟨k, registerTarget app chal handle k⟩⟩,
          { s.tick with items := saveRaw s.kind s.items (u2fPasskey app handle k) },
          [.save (u2fPasskey app handle k) handle false false false none]) := by
  unfold register Store.save
  cases s.fault? <;> rfl

theorem fault_of_register_ok {s : Store} {k : Key} {app chal handle : Bytes} {r : RegisterResp}
    (h : (register s k app chal handle).1 = .ok r) : s.fault? = none := by
  rw [register_eq] at h
  cases hf : s.fault? with
  | some e => rw [hf] at h; cases h
  | none => rfl

theorem ofBe32_be32 (n : Nat) (h : n < 4294967296) : U2f.ofBe32 (U2f.be32 n) = n :=
  (congrArg Cbor.ofBe (AuthData.be32_eq_beBytes n h)).trans (Cbor.ofBe_beBytes 4 n h)

/-- the switch on INS and P1 that `Request::try_from` makes once the payload is cut out of the frame -/
def dispatch (ins p1 : UInt8) (payload : Bytes) : Parsed :=
  if ins == 0x01 then
    (if payload.length != 64 then .err swWrongLength else .register (payload.take 32) (payload.drop 32))
  else if ins == 0x02 then
    (if !(p1 == 0x07 || p1 == 0x03 || p1 == 0x08) then .err swWrongData else parseAuthPayload payload p1)
  else if ins == 0x03 then .version
  else .err swInsNotSupported

theorem parseRequest_eq (v : Bytes) :
    parseRequest v =
      if v.length < 7 then .err swWrongLength
      else if v.getD 0 0 != 0 then .err swWrongData
      else if v.length < 7 + U2f.ofBe32 ((v.drop 3).take 4) then .err swWrongLength
      else dispatch (v.getD 1 0) (v.getD 2 0) ((v.drop 7).take (U2f.ofBe32 ((v.drop 3).take 4))) := rfl

theorem parse_frame (ins p1 : UInt8) (data le : Bytes) (h : data.length < 65536) :
    parseRequest (frame ins p1 data le) = dispatch ins p1 data := by
  have hlen : (frame ins p1 data le).length = 7 + data.length + le.length := by
    simp [frame]
    omega
  have hbe : U2f.ofBe32 (((frame ins p1 data le).drop 3).take 4) = data.length := by
    show U2f.ofBe32 [0x00, 0x00, UInt8.ofNat (data.length / 256), UInt8.ofNat (data.length % 256)] = data.length
    simpa [U2f.ofBe32, AuthData.ofBe16] using AuthData.be16_roundtrip data.length (by omega)
  have hpay : ((frame ins p1 data le).drop 7).take data.length = data := by
    show (data ++ le).take data.length = data
    simp
  have h0 : (frame ins p1 data le).getD 0 0 = 0 := rfl
  rw [parseRequest_eq, hbe, hpay, hlen, h0, if_neg (by omega), if_neg (by decide), if_neg (by omega)]
  rfl

theorem parseAuthPayload_parts (p1 : UInt8) (chal app handle : Bytes) (hc : chal.length = 32) (ha : app.length = 32)
    (hh : handle.length ≤ 255) :
    parseAuthPayload (chal ++ app ++ [UInt8.ofNat handle.length] ++ handle) p1 = .authenticate p1 chal app handle := by
  have hl : (UInt8.ofNat handle.length).toNat = handle.length := by
    rw [UInt8.toNat_ofNat']
    omega
  have h65 : (chal ++ app ++ [UInt8.ofNat handle.length]).length = 65 := by simp [hc, ha]
  have g64 : (chal ++ app ++ [UInt8.ofNat handle.length] ++ handle).getD 64 0 = UInt8.ofNat handle.length := by
    rw [List.append_assoc, getD_append_len (chal ++ app) _ 64 0 0 (by simp [hc, ha])]
    rfl
  have t1 : (chal ++ app ++ [UInt8.ofNat handle.length] ++ handle).take 32 = chal := by
    rw [List.append_assoc, List.append_assoc, List.take_left' hc]
  have t2 : ((chal ++ app ++ [UInt8.ofNat handle.length] ++ handle).drop 32).take 32 = app := by
    rw [List.append_assoc, List.append_assoc, List.drop_left' hc, List.take_left' ha]
  have t3 : ((chal ++ app ++ [UInt8.ofNat handle.length] ++ handle).drop 65).take handle.length = handle := by
    rw [List.drop_left' h65, List.take_length]
  unfold parseAuthPayload
  rw [g64, hl, t1, t2]
  dsimp only
  rw [t3, List.length_append, h65]
  simp

/-- **Every result of the request parser**: a status word, the version request, or fields cut out of the payload,
which is itself cut out of the frame — so never `panic`, and no field longer than the input (Props/C15). -/
theorem parseRequest_cases (v : Bytes) {P : Parsed → Prop} (err : ∀ sw, P (.err sw)) (version : P .version)
    (register : ∀ n k, P (.register (((v.drop 7).take n).take 32) (((v.drop 7).take n).drop k)))
    (authenticate : ∀ n p1 hl, P (.authenticate p1 (((v.drop 7).take n).take 32)
      ((((v.drop 7).take n).drop 32).take 32) ((((v.drop 7).take n).drop 65).take hl))) :
    P (parseRequest v) := by
  -- one `iteInduction` per test of the code: `split` would rewrite the whole remaining body at each
  rw [parseRequest_eq]
  refine iteInduction (fun _ => err _) fun _ => iteInduction (fun _ => err _) fun _ => iteInduction (fun _ => err _) fun _ => ?_
  unfold dispatch parseAuthPayload
  refine iteInduction (fun _ => iteInduction (fun _ => err _) fun _ => register _ _) fun _ => iteInduction ?_ fun _ =>
    iteInduction (fun _ => version) fun _ => err _
  exact fun _ => iteInduction (fun _ => err _) fun _ => iteInduction (fun _ => err _) fun _ =>
    iteInduction (fun _ => err _) fun _ => authenticate _ _ _

end PasskeyVerif.U2f
