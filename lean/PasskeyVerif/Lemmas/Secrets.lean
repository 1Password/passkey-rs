/- Noninterference lemmas for Props/C06.  Two runs that differ only in a secret take the same branches, so each
proof walks the definition once with both runs side by side. -/
import PasskeyVerif.Lemmas.Auth
namespace PasskeyVerif.Auth
open PasskeyVerif.Auth.Spec
open PasskeyVerif.AuthData (Bytes AuthData)

/-- `d` is the private scalar of the key pair -/
def Draws.withD (dr : Draws) (d' : Bytes) : Draws := { dr with key := { dr.key with d := d' } }
def Draws.withSecrets (dr : Draws) (a b : Bytes) : Draws := { dr with secretUv := a, secretNoUv := b }
def Passkey.withD (p : Passkey) (d' : Bytes) : Passkey := { p with key := { p.key with d := d' } }

theorem makeAfterConsent_result_withD (cfg : Cfg) (s : Store) (dr : Draws) (req : MakeReq) (flags : UInt8) (d' : Bytes) :
    (makeAfterConsent cfg s (dr.withD d') req flags).result = (makeAfterConsent cfg s dr req flags).result := by
  -- the checks read the drawn secrets only, the response the credential id and the public key; the scalar goes to
  -- the store
  rw [makeAfterConsent_eq, makeAfterConsent_eq, show makeChecks cfg s (dr.withD d') req = makeChecks cfg s dr req from rfl]
  cases makeChecks cfg s dr req with
  | error e => rfl
  | ok x =>
    dsimp only
    rw [Outcome.prepend_result, Outcome.prepend_result, finishMake_eq, finishMake_eq]
    cases (beforeFinish s req).1.tick.fault? <;> rfl

theorem makeHmacSecret_isSome (cfg : Cfg) (dr dr' : Draws) (x : Option Bool) :
    (makeHmacSecret cfg dr' x).isSome = (makeHmacSecret cfg dr x).isSome := by
  unfold makeHmacSecret
  cases cfg.hmac with
  | none => rfl
  | some h => dsimp only; split <;> rfl

/-- everything of an assertion response except which private scalar signs -/
def GetResp.pub (r : GetResp) : Bytes × AuthData × Option Bytes × Option PrfValues × Bytes × Bytes × Bytes :=
  (r.credId, r.authData, r.userHandle, r.unsignedPrf, r.signed.message, r.signed.key.x, r.signed.key.y)

theorem signPhase_result_store (cfg : Cfg) (s s' : Store) (req : GetReq) (flags : UInt8) (cred : Passkey) :
    (signPhase cfg s req flags cred).result = (signPhase cfg s' req flags cred).result := by
  unfold signPhase
  split
  · rfl
  · split <;> rfl

theorem signPhase_pub_withD (cfg : Cfg) (s : Store) (req : GetReq) (flags : UInt8) (cred : Passkey) (d' : Bytes) :
    (signPhase cfg s req flags (cred.withD d')).result.map GetResp.pub = (signPhase cfg s req flags cred).result.map GetResp.pub := by
  unfold signPhase
  -- extensions and authenticator data read the secrets' HMAC outputs, the id and the counter
  rw [show getExtensions cfg (cred.withD d') req.ext (flags &&& PasskeyVerif.Generated.Flags.UV != 0)
      = getExtensions cfg cred req.ext (flags &&& PasskeyVerif.Generated.Flags.UV != 0) from rfl,
    show (cred.withD d').counter = cred.counter from rfl]
  split
  · rfl
  · split <;> rfl

/-- the stores read of the credential only its id -/
theorem update_status_withD (s : Store) (p : Passkey) (d' : Bytes) : (s.update (p.withD d')).1 = (s.update p).1 := by
  unfold Store.update
  cases s.fault? with
  | some f => rfl
  | none =>
    cases s.kind with
    | memoryMap => rfl
    | singleSlot => rfl
    | reference d =>
      simp only [updateRaw, show (p.withD d').credId = p.credId from rfl]
      by_cases h : (s.items.any fun q => q.credId == p.credId) = true
      · rw [if_pos h, if_pos h]
      · rw [if_neg h, if_neg h]

end PasskeyVerif.Auth
