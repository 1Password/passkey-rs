/-
The rule blob against the table, without decoding the blob: the rules of the decoded table are
serialised and matched against the chunk numbers in one pass, and what the blob decodes to follows
from a round trip through `readRules` that holds for every rule list.
-/
import PasskeyVerif.Lemmas.PslDecoder
namespace PasskeyVerif.Psl
open Spec

def kindByte : Kind → Nat
  | .normal => 0 | .exception => 1 | .wildcard => 2

def encodeLabels : List Label → List Nat
  | [] => []
  | l :: ls => l.length :: (l ++ encodeLabels ls)

def encodeRules : List Rule → List Nat
  | [] => []
  | r :: rs => kindByte r.kind :: r.labels.length :: (encodeLabels r.labels ++ encodeRules rs)

theorem takeExact_append (l rest : List Nat) : takeExact l.length (l ++ rest) = some (l, rest) := by
  induction l with
  | nil => rfl
  | cons b bs ih => simp [takeExact, ih]

theorem readLabels_encodeLabels (ls : List Label) (rest : List Nat) :
    readLabels ls.length (encodeLabels ls ++ rest) = some (ls, rest) := by
  induction ls with
  | nil => rfl
  | cons l ls ih => simp [readLabels, encodeLabels, takeExact_append, ih]

theorem readRules_encodeRules (rs : List Rule) : readRules rs.length (encodeRules rs) = some rs := by
  induction rs with
  | nil => rfl
  | cons r rs ih =>
    obtain ⟨ls, k⟩ := r
    have hk : kindOfByte (kindByte k) = some k := by cases k <;> rfl
    simp [readRules, encodeRules, hk, readLabels_encodeLabels, ih]

/-- reading position in a chunked packing: bytes left in the current chunk, what is left of it, the
chunks after it -/
structure Pos where
  left : Nat
  cur : Nat
  rest : List Nat

/-- the next byte is `b` (`2047`: a fresh chunk has `chunkBytes` bytes, one of which is read) -/
def Pos.eat (p : Pos) (b : Nat) : Option Pos :=
  match p.left with
  | k + 1 => if p.cur % 256 = b then some ⟨k, p.cur / 256, p.rest⟩ else none
  | 0 =>
    match p.rest with
    | [] => none
    | c :: cs => if c % 256 = b then some ⟨2047, c / 256, cs⟩ else none

def eatAll : List Nat → Pos → Option Pos
  | [], p => some p
  | b :: bs, p => match p.eat b with | none => none | some p => eatAll bs p

def eatLabels : List Label → Pos → Option Pos
  | [], p => some p
  | l :: ls, p => match p.eat l.length with
    | none => none
    | some p => match eatAll l p with | none => none | some p => eatLabels ls p

/-- the bytes from `p` on begin with `encodeRules rs`; the position after them -/
def eatRules : List Rule → Pos → Option Pos
  | [], p => some p
  | r :: rs, p => match p.eat (kindByte r.kind) with
    | none => none
    | some p => match p.eat r.labels.length with
      | none => none
      | some p => match eatLabels r.labels p with | none => none | some p => eatRules rs p

def Pos.bytes (p : Pos) : List Nat := leBytes p.left p.cur ++ p.rest.flatMap (leBytes chunkBytes)

/-- `f` reads exactly the bytes `bs` -/
def Eats (f : Pos → Option Pos) (bs : List Nat) : Prop := ∀ p q, f p = some q → p.bytes = bs ++ q.bytes

theorem Eats.nil : Eats some [] := fun _ _ h => by cases h; rfl

theorem Eats.then {f g : Pos → Option Pos} {as bs : List Nat} (hf : Eats f as) (hg : Eats g bs) :
    Eats (fun p => match f p with | none => none | some p => g p) (as ++ bs) := by
  intro p q h
  dsimp only at h
  split at h
  · cases h
  · rename_i p' hp
    rw [hf _ _ hp, hg _ _ h, List.append_assoc]

theorem Pos.eats (b : Nat) : Eats (Pos.eat · b) [b] := by
  intro p q h
  obtain ⟨left, cur, rest⟩ := p
  unfold Pos.eat at h
  cases left with
  | succ k =>
    dsimp only at h
    split at h
    · rename_i hb; cases h; simp [Pos.bytes, leBytes, hb]
    · cases h
  | zero =>
    dsimp only at h
    split at h
    · cases h
    · split at h
      · rename_i c cs hb
        cases h
        have hc : leBytes chunkBytes c = c % 256 :: leBytes 2047 (c / 256) := rfl
        rw [Pos.bytes, Pos.bytes, List.flatMap_cons, hc, ← hb, leBytes, List.nil_append, List.cons_append]
        rfl
      · cases h

theorem eatAll_eats : ∀ bs : List Nat, Eats (eatAll bs) bs
  | [] => .nil
  | b :: bs => (Pos.eats b).then (eatAll_eats bs)

theorem eatLabels_eats : ∀ ls : List Label, Eats (eatLabels ls) (encodeLabels ls)
  | [] => .nil
  | l :: ls => (Pos.eats l.length).then ((eatAll_eats l).then (eatLabels_eats ls))

theorem eatRules_eats : ∀ rs : List Rule, Eats (eatRules rs) (encodeRules rs)
  | [] => .nil
  | r :: rs => (Pos.eats (kindByte r.kind)).then ((Pos.eats r.labels.length).then
      ((eatLabels_eats r.labels).then (eatRules_eats rs)))

theorem length_flatMap_leBytes (k : Nat) (chunks : List Nat) :
    (chunks.flatMap (leBytes k)).length = k * chunks.length := by
  induction chunks with
  | nil => rfl
  | cons c cs ih => rw [List.flatMap_cons, List.length_append, leBytes_length, ih, List.length_cons, Nat.mul_succ, Nat.add_comm]

theorem Pos.bytes_length (p : Pos) : p.bytes.length = p.left + chunkBytes * p.rest.length := by
  rw [Pos.bytes, List.length_append, leBytes_length, length_flatMap_leBytes]

theorem getElem?_flatMap_leBytes (chunks : List Nat) (i : Nat) (h : i < chunkBytes * chunks.length) :
    (chunks.flatMap (leBytes chunkBytes))[i]? = some (packedByte chunks i) := by
  induction chunks generalizing i with
  | nil => simp at h
  | cons c cs ih =>
    rw [List.flatMap_cons, packedByte]
    by_cases hi : i < chunkBytes
    · rw [List.getElem?_append_left (by rw [leBytes_length]; exact hi), leBytes_getElem? _ _ _ hi,
        Nat.div_eq_of_lt hi, Nat.mod_eq_of_lt hi]
      rfl
    · have hpos : 0 < chunkBytes := by decide
      obtain ⟨i', rfl⟩ : ∃ i', i = i' + chunkBytes := ⟨i - chunkBytes, by omega⟩
      rw [List.getElem?_append_right (by rw [leBytes_length]; omega), leBytes_length, Nat.add_sub_cancel,
        ih i' (by rw [List.length_cons, Nat.mul_succ] at h; omega), Nat.add_div_right _ hpos, Nat.add_mod_right,
        List.getElem?_cons_succ]
      rfl

theorem unpack_eq_take (chunks : List Nat) (len : Nat) (h : len ≤ chunkBytes * chunks.length) :
    unpack chunks len = (chunks.flatMap (leBytes chunkBytes)).take len := by
  apply List.ext_getElem?
  intro i
  rw [unpack, List.getElem?_map, List.getElem?_take]
  by_cases hi : i < len
  · rw [List.getElem?_range hi, if_pos hi, getElem?_flatMap_leBytes chunks i (by omega)]
    rfl
  · rw [if_neg hi, List.getElem?_eq_none (by simpa using hi)]
    rfl

/-- The table decodes, and the serialisation of its rules is the first `len` bytes of `chunks`: the
chunks begin with it, and what is left after it is what `chunks` holds beyond `len` bytes. There are `n`
rules, well formed. -/
def tableIsBlob (t : Table) (depth : Nat) (chunks : List Nat) (len n : Nat) : Bool :=
  match decodeTable t depth with
  | none => false
  | some f =>
    match eatRules f.rules ⟨0, 0, chunks⟩ with
    | none => false
    | some q =>
      chunkBytes * chunks.length == len + q.left + chunkBytes * q.rest.length
        && f.rules.length == n && wfRules f.rules

theorem tableIsBlob_sound {t : Table} {depth : Nat} {chunks : List Nat} {len n : Nat}
    (h : tableIsBlob t depth chunks len n = true) :
    ∃ f, decodeTable t depth = some f ∧ readRules n (unpack chunks len) = some f.rules
      ∧ wfRules f.rules = true := by
  unfold tableIsBlob at h
  split at h
  · cases h
  · rename_i f hf
    split at h
    · cases h
    · rename_i q hq
      simp only [Bool.and_eq_true, beq_iff_eq] at h
      obtain ⟨⟨hlen, hn⟩, hwf⟩ := h
      refine ⟨f, hf, ?_, hwf⟩
      -- the serialisation has `len` bytes: count the bytes before and after it
      have hb := eatRules_eats _ _ _ hq
      have hl := congrArg List.length hb
      rw [List.length_append, Pos.bytes_length, Pos.bytes_length, hlen] at hl
      rw [unpack_eq_take chunks len (by omega)]
      show readRules n (List.take len (Pos.bytes ⟨0, 0, chunks⟩)) = _
      rw [hb, List.take_left' (by dsimp only at hl; omega), ← hn, readRules_encodeRules]

end PasskeyVerif.Psl
