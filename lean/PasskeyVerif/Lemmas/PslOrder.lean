/- `strLt` is a strict total order; binary search over a strictly sorted range of node labels. -/
import PasskeyVerif.Model.Psl
namespace PasskeyVerif.Psl

theorem strLt_iff_lt (a b : Str) : strLt a b = true ↔ a < b := by
  fun_induction strLt a b with
  | case1 => simp
  | case2 => simp
  | case3 => simp
  | case4 a as b bs h => simp [List.cons_lt_cons_iff, h]
  | case5 a as b bs h1 h2 => simp [List.cons_lt_cons_iff]; omega
  | case6 a as b bs h1 h2 ih =>
    have : a = b := by omega
    simp [this, ih]

theorem strLt_irrefl (a : Str) : strLt a a = false :=
  Bool.eq_false_iff.mpr fun h => List.lt_irrefl a ((strLt_iff_lt a a).mp h)

theorem strLt_trans (a b c : Str) (h1 : strLt a b = true) (h2 : strLt b c = true) : strLt a c = true :=
  (strLt_iff_lt a c).mpr (List.lt_trans ((strLt_iff_lt a b).mp h1) ((strLt_iff_lt b c).mp h2))

theorem strLt_total (a b : Str) (h1 : strLt a b = false) (h2 : a ≠ b) : strLt b a = true :=
  (strLt_iff_lt b a).mpr (Decidable.byContradiction fun h =>
    h2 (List.le_antisymm h fun h' => by rw [(strLt_iff_lt a b).mpr h'] at h1; cases h1))

theorem strLt_asymm (a b : Str) (h : strLt a b = true) : strLt b a = false :=
  Bool.eq_false_iff.mpr fun h' => List.lt_asymm ((strLt_iff_lt a b).mp h) ((strLt_iff_lt b a).mp h')

theorem strLt_ne (a b : Str) (h : strLt a b = true) : a ≠ b :=
  fun e => by rw [e, strLt_irrefl] at h; cases h

/-- nodes `lo..hi` have labels, strictly increasing -/
def SortedRange (t : Table) (lo hi : Nat) : Prop :=
  ∀ j, lo ≤ j → j < hi → ∃ a, nodeLabel? t j = some a ∧
    ∀ j' b, j < j' → j' < hi → nodeLabel? t j' = some b → strLt a b = true

theorem SortedRange.mono {t : Table} {lo hi lo' hi' : Nat} (h : SortedRange t lo hi) (h1 : lo ≤ lo') (h2 : hi' ≤ hi) :
    SortedRange t lo' hi' := fun j hj hj' =>
  let ⟨a, ha, hlt⟩ := h j (by omega) (by omega)
  ⟨a, ha, fun j' b h3 h4 => hlt j' b h3 (by omega)⟩

/-- positions follow labels -/
theorem SortedRange.lt_of_strLt {t : Table} {lo hi j k : Nat} {a b : Str} (h : SortedRange t lo hi)
    (hj : j < hi) (hk : lo ≤ k ∧ k < hi) (ha : nodeLabel? t j = some a) (hb : nodeLabel? t k = some b)
    (hab : strLt a b = true) : j < k :=
  Decidable.byContradiction fun hn => by
    obtain ⟨b', hb', hlt⟩ := h k hk.1 hk.2
    cases hb.symm.trans hb'
    have hba : strLt b a = true ∨ b = a := by
      by_cases e : k = j
      · subst e; exact Or.inr (Option.some.inj (hb.symm.trans ha))
      · exact Or.inl (hlt j a (by omega) (by omega) ha)
    rcases hba with hba | rfl
    · have := strLt_trans _ _ _ hba hab
      rw [strLt_irrefl] at this; cases this
    · rw [strLt_irrefl] at hab; cases hab

theorem find_spec (t : Table) (label : Str) (fuel lo hi : Nat) (hfuel : hi - lo < fuel) (hs : SortedRange t lo hi) :
    (∃ k, lo ≤ k ∧ k < hi ∧ nodeLabel? t k = some label ∧ find t label fuel lo hi = some (some k))
    ∨ ((∀ k, lo ≤ k → k < hi → nodeLabel? t k ≠ some label) ∧ find t label fuel lo hi = some none) := by
  fun_induction find t label fuel lo hi with
  | case1 => omega
  | case2 fuel lo hi hlt mid hm =>
    have hmid : lo ≤ mid ∧ mid < hi := by omega
    obtain ⟨s, hsm, -⟩ := hs mid hmid.1 hmid.2
    cases hm.symm.trans hsm
  | case3 fuel lo hi hlt mid s hsm h1 ih =>
    -- a node labelled `label` is to the right of `mid`
    have hmid : lo ≤ mid ∧ mid < hi := by omega
    clear_value mid
    rcases ih (by omega) (hs.mono (by omega) (Nat.le_refl _)) with ⟨k, hk1, hk2, hk3, hk4⟩ | ⟨hno, hf⟩
    · exact Or.inl ⟨k, by omega, hk2, hk3, hk4⟩
    · exact Or.inr ⟨fun k hk1 hk2 hk => hno k (hs.lt_of_strLt hmid.2 ⟨hk1, hk2⟩ hsm hk h1) hk2 hk, hf⟩
  | case4 fuel lo hi hlt mid hsm =>
    have hmid : lo ≤ mid ∧ mid < hi := by omega
    exact Or.inl ⟨mid, hmid.1, hmid.2, hsm, rfl⟩
  | case5 fuel lo hi hlt mid s hsm h1 h2 ih =>
    have hmid : lo ≤ mid ∧ mid < hi := by omega
    clear_value mid
    have h3 : strLt label s = true := strLt_total s label (by simpa using h1) h2
    rcases ih (by omega) (hs.mono (Nat.le_refl _) (by omega)) with ⟨k, hk1, hk2, hk3, hk4⟩ | ⟨hno, hf⟩
    · exact Or.inl ⟨k, hk1, by omega, hk3, hk4⟩
    · exact Or.inr ⟨fun k hk1 hk2 hk => hno k hk1 (hs.lt_of_strLt hk2 hmid hk hsm h3) hk, hf⟩
  | case6 fuel lo hi hlt => exact Or.inr ⟨fun k h1 h2 => by omega, rfl⟩
end PasskeyVerif.Psl
