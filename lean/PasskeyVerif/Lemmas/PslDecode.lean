/-
What a decoded range of the table (`Dec`) gives: binary search finds the node `lookup` finds, and the
model of `public_suffix`'s loop over the table is the trie walk over the decoded trie.
-/
import PasskeyVerif.Lemmas.PslWalk
import PasskeyVerif.Lemmas.PslOrder
import PasskeyVerif.Lemmas.PslStr
namespace PasskeyVerif.Psl
open Spec

theorem Dec.lt_all {t : Table} {top : Bool} {lo hi : Nat} {sib : Forest} (hs : Dec t top lo hi sib) {l : Label}
    (hadj : ∀ l', sib.labels.head? = some l' → strLt l l' = true) : ∀ l' ∈ sib.labels, strLt l l' = true := by
  induction hs generalizing l with
  | nil => intro _ h; cases h
  | cons _ _ _ _ _ hadj' _ ihs =>
    intro l' hl'
    rcases List.mem_cons.mp hl' with rfl | hl'
    · exact hadj _ rfl
    · exact strLt_trans _ _ _ (hadj _ rfl) (ihs hadj' l' hl')

theorem Dec.le {t : Table} {top : Bool} {lo hi : Nat} {f : Forest} (h : Dec t top lo hi f) : lo ≤ hi := by
  induction h with
  | nil => exact Nat.le_refl _
  | cons _ _ _ _ _ _ _ ih => omega

theorem Dec.wf {t : Table} {top : Bool} {lo hi : Nat} {f : Forest} (h : Dec t top lo hi f) : f.WF := by
  induction h with
  | nil => trivial
  | cons _ _ _ _ hs hadj ihc ihs => exact ⟨fun hm => by simpa [strLt_irrefl] using hs.lt_all hadj _ hm, ihc, ihs⟩

theorem Dec.lookup_of_label {t : Table} {top : Bool} {lo hi : Nat} {f : Forest} (h : Dec t top lo hi f)
    (j : Nat) (h1 : lo ≤ j) (h2 : j < hi) :
    ∃ lab clo chi ty w ch, nodeLabel? t j = some lab ∧ childInfo? t j = some (clo, chi, ty, w)
      ∧ f.lookup lab = some (kindOf t ty, w, ch) ∧ Dec t false clo chi ch
      ∧ (top = true → kindOf t ty ≠ .exception) := by
  induction h with
  | nil => omega
  | @cons top lo hi clo chi ty l w ch sib hl hc htop hch hs hadj _ ihs =>
    by_cases hj : j = lo
    · subst hj
      exact ⟨l, clo, chi, ty, w, ch, hl, hc, by simp [Forest.lookup], hch, htop⟩
    · obtain ⟨lab, clo', chi', ty', w', ch', h3, h4, h5, h6⟩ := ihs (by omega) h2
      refine ⟨lab, clo', chi', ty', w', ch', h3, h4, ?_, h6⟩
      rw [Forest.lookup, if_neg (strLt_ne _ _ (hs.lt_all hadj lab (mem_labels_of_lookup h5))), h5]

theorem Dec.index_of_mem {t : Table} {top : Bool} {lo hi : Nat} {f : Forest} (h : Dec t top lo hi f)
    (lab : Label) (hm : lab ∈ f.labels) : ∃ j, lo ≤ j ∧ j < hi ∧ nodeLabel? t j = some lab := by
  induction h with
  | nil => cases hm
  | cons hl _ _ _ hs _ _ ihs =>
    rcases List.mem_cons.mp hm with rfl | hm
    · exact ⟨_, Nat.le_refl _, hs.le, hl⟩
    · obtain ⟨j, h1, h2, h3⟩ := ihs hm
      exact ⟨j, by omega, h2, h3⟩

theorem Dec.sorted {t : Table} {top : Bool} {lo hi : Nat} {f : Forest} (h : Dec t top lo hi f) :
    SortedRange t lo hi := by
  induction h with
  | nil => intro j h1 h2; omega
  | @cons _ lo _ _ _ _ l _ _ _ hl _ _ _ hs hadj _ ihs =>
    intro j h1 h2
    by_cases hj : j = lo
    · subst hj
      refine ⟨l, hl, fun j' b h3 h4 hb => hs.lt_all hadj b ?_⟩
      obtain ⟨lab, _, _, _, _, _, h5, _, h6, _⟩ := hs.lookup_of_label j' (by omega) h4
      rw [hb] at h5; cases h5
      exact mem_labels_of_lookup h6
    · exact ihs j (by omega) h2

theorem Dec.find {t : Table} {top : Bool} {lo hi : Nat} {f : Forest} (h : Dec t top lo hi f) (lab : Str) :
    (f.lookup lab = none ∧ find t lab (hi - lo + 1) lo hi = some none)
    ∨ (∃ idx clo chi ty w ch, f.lookup lab = some (kindOf t ty, w, ch)
        ∧ find t lab (hi - lo + 1) lo hi = some (some idx)
        ∧ childInfo? t idx = some (clo, chi, ty, w) ∧ Dec t false clo chi ch
        ∧ (top = true → kindOf t ty ≠ .exception)) := by
  rcases find_spec t lab (hi - lo + 1) lo hi (by omega) h.sorted with ⟨k, h1, h2, h3, h4⟩ | ⟨hno, h4⟩
  · obtain ⟨lab', clo, chi, ty, w, ch, h5, h6, h7, h8⟩ := h.lookup_of_label k h1 h2
    rw [h3] at h5; cases h5
    exact Or.inr ⟨k, clo, chi, ty, w, ch, h7, h4, h6, h8⟩
  · refine Or.inl ⟨?_, h4⟩
    cases hl : f.lookup lab with
    | none => rfl
    | some x =>
      obtain ⟨j, h1, h2, h3⟩ := h.index_of_mem lab (mem_labels_of_lookup hl)
      exact absurd h3 (hno j h1 h2)

/-- the position `suffix.start` a relative walk result stands for, within the string `s` walked -/
def posOf (s : Str) (suffix : Nat) : Option Nat → Nat
  | none => suffix
  | some 0 => 1 + s.length
  | some (j + 1) => s.length - (lastLabels (j + 1) s).length

theorem posOf_one (s : Str) (suffix : Nat) : posOf s suffix (some 1) = afterOrAll (rfindDot s) := by
  show s.length - (lastLabels 1 s).length = _
  rw [lastLabels_one, List.length_drop]
  have := afterOrAll_le s
  omega

theorem posOf_lift (p l : Str) (hl : dot ∉ l) (sfx sfx' : Nat) (j : Nat) :
    posOf p sfx' (some j) = posOf (p ++ dot :: l) sfx (some (j + 1)) := by
  cases j with
  | zero => rw [posOf_one, rfindDot_append_dot p l hl]; simp [posOf, afterOrAll]; omega
  | succ j =>
    show p.length - _ = (p ++ dot :: l).length - _
    rw [lastLabels_succ p l hl (j + 1) (by omega)]
    simp; omega

theorem Dec.eq_nil {t : Table} {top : Bool} {lo hi : Nat} {f : Forest} (h : Dec t top lo hi f) (e : lo = hi) :
    f = .nil := by
  cases h with
  | nil => rfl
  | cons _ _ _ _ hs _ => have := hs.le; omega

/-- **The loop of `public_suffix` over a decoded range is the trie walk.** -/
theorem walk_eq_walkO (t : Table) : ∀ (fuel : Nat) (s : Str) (lo hi suffix : Nat) (wild : Bool) (f : Forest) (top : Bool),
    Dec t top lo hi f → (splitDots s).length ≤ fuel →
    walk t fuel s lo hi suffix wild = some (posOf s suffix (walkO f wild (revLabels s))) := by
  intro fuel
  induction fuel with
  | zero => intro s _ _ _ _ _ _ _ hf; have := splitDots_length_pos s; omega
  | succ fuel ih =>
    intro s lo hi suffix wild f top hdec hfuel
    unfold walk
    rw [revLabels_step]
    unfold walkO
    dsimp only
    -- the current suffix after the wildcard update
    have hcur : (if wild = true then afterOrAll (rfindDot s) else suffix)
        = posOf s suffix (if wild = true then some 1 else none) := by
      cases wild
      · rfl
      · exact (posOf_one s suffix).symm
    by_cases hlohi : lo = hi
    · rw [if_pos hlohi, hdec.eq_nil hlohi, hcur]; rfl
    · rw [if_neg hlohi]
      rcases hdec.find (s.drop (afterOrAll (rfindDot s))) with
        ⟨hlk, hfind⟩ | ⟨idx, lo', hi', ty, w, ch, hlk, hfind, hci, hdch, htop⟩
      · rw [hfind, hlk, hcur]
      · rw [hfind, hlk]
        dsimp only
        rw [hci]
        dsimp only
        -- the recursive call, on the part before the last dot; `o` is what the suffix stands for so far
        have hrec : ∀ sfx o, sfx = posOf s suffix o →
            (match rfindDot s with
              | some d => walk t fuel (s.take d) lo' hi' sfx w
              | none => some sfx)
            = some (posOf s suffix
                (match walkO ch w (match rfindDot s with | some d => revLabels (s.take d) | none => []) with
                  | some j => some (j + 1)
                  | none => o)) := by
          intro sfx o ho
          rcases rfindDot_cases s with ⟨_, hr⟩ | ⟨p, l, hl, rfl, hr⟩
          · rw [hr, ho]; rfl
          · rw [hr]
            dsimp only
            rw [List.take_left', ih p lo' hi' sfx w ch false hdch (by
              rw [splitDots_append_dot, splitDots_of_not_mem l hl] at hfuel
              simpa using hfuel)]
            cases walkO ch w (revLabels p) with
            | none => exact congrArg some ho
            | some j => exact congrArg some (posOf_lift p l hl suffix sfx j)
            rfl
        unfold kindOf
        by_cases hn : ty = t.typeNormal
        · rw [if_pos hn, if_pos hn]
          exact hrec _ _ (posOf_one s suffix).symm
        · rw [if_neg hn, if_neg hn]
          by_cases he : ty = t.typeException
          · rw [if_pos he, if_pos he]; rfl
          · rw [if_neg he, if_neg he]
            exact hrec _ _ hcur

end PasskeyVerif.Psl
