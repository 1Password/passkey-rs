/- C04's specification (Spec/Auth.lean) against the model: its consent predicates are `verdict`'s two answers, and its
clauses are settled on the two shapes of outcome the ceremonies produce — an error with no effect in the trace, and
a trace in which the user was asked before anything else happened to the store. -/
import PasskeyVerif.Lemmas.Auth
namespace PasskeyVerif.Auth
open PasskeyVerif.Auth.Spec PasskeyVerif.Generated
open PasskeyVerif.AuthData (Bytes AuthData)

theorem consentMissing_iff (env : Env) (op : OpReq) :
    consentMissing env op = true ↔ ∃ e, verdict env.uv op.up op.uvReq = .error e := by
  unfold consentMissing consentGiven answered verdict
  cases hcap : (op.uvReq && env.uv.verification != some true)
  · cases env.uv.answer with
    | error e => simp
    | ok a =>
      obtain ⟨p, v⟩ := a
      cases hg : ((!op.up || p) && (!op.uvReq || v)) <;> simp [hg]
  · simp

theorem consent_of_verdict (env : Env) (op : OpReq) (f : UInt8) (h : verdict env.uv op.up op.uvReq = .ok f) :
    consentGiven env op = true ∧ ∃ p v, answered env = some (p, v) ∧ f = flagsOf p v := by
  obtain ⟨_, p, v, ha, hg, hf⟩ := verdict_ok h
  unfold consentGiven answered
  rw [ha]
  exact ⟨hg, p, v, rfl, hf⟩

theorem scan_seen (up uv : Bool) (l : List EvObs) : consentScan up uv l true = true := by
  induction l with
  | nil => rfl
  | cons e rest ih => simp only [consentScan]; split <;> simp [ih]

theorem scan_no_effect (up uv : Bool) (l : List EvObs) (seen : Bool) (h : ∀ e ∈ l, isEffect e = false) :
    consentScan up uv l seen = true := by
  induction l generalizing seen with
  | nil => rfl
  | cons e rest ih =>
    simp only [consentScan, h e (List.mem_cons_self), Bool.false_eq_true, if_false]
    exact ih _ (fun x hx => h x (List.mem_cons_of_mem _ hx))

theorem scan_asked (up uv : Bool) (pre rest : List EvObs) (c : Option Bytes) (seen : Bool)
    (h : ∀ e ∈ pre, isEffect e = false) : consentScan up uv (pre ++ .uv c up uv :: rest) seen = true := by
  induction pre generalizing seen with
  | nil => simp [consentScan, isEffect, askedFor, scan_seen]
  | cons e pre ih =>
    simp only [List.cons_append, consentScan, h e (List.mem_cons_self), Bool.false_eq_true, if_false]
    exact ih _ (fun x hx => h x (List.mem_cons_of_mem _ hx))

theorem effect_after_consent_of_quiet (env : Env) (op : OpReq) (e : Nat) (tr : List Event) (st : List PkSnap)
    (hq : effects tr = []) : c04_effect_after_consent env op ⟨.err e, tr.map evObsOf, st⟩ = true := by
  have hq' := (effects_eq_nil_iff tr).mp hq
  have hany : (tr.map evObsOf).any isEffect = false := by
    rw [List.any_eq_false]; intro x hx; simp [hq' x hx]
  simp [c04_effect_after_consent, isOk, hany, scan_no_effect _ _ _ _ hq']

theorem effect_after_consent_of_asked (env : Env) (op : OpReq) (res : ResObs) (pre rest : List Event) (c : Option Bytes)
    (st : List PkSnap) (hg : consentGiven env op = true) (hq : effects pre = []) :
    c04_effect_after_consent env op ⟨res, (pre ++ .uv c op.up op.uvReq :: rest).map evObsOf, st⟩ = true := by
  have hq' := (effects_eq_nil_iff pre).mp hq
  simp only [c04_effect_after_consent, hg, Bool.or_true, Bool.true_and, List.map_append, List.map_cons, evObsOf,
    scan_asked _ _ _ _ _ _ hq']
  simp [askedFor]

theorem up_bit_of_flags (p v : Bool) (extra : UInt8) (h : extra &&& (Flags.UP ||| Flags.UV) = 0) :
    (((Flags.DEFAULT ||| flagsOf p v) ||| extra) &&& AuthData.Spec.bitUP != 0) = p
    ∧ (((Flags.DEFAULT ||| flagsOf p v) ||| extra) &&& AuthData.Spec.bitUV != 0) = v := by
  -- `extra` misses UP and UV, so it is invisible to either bit test
  rw [AuthData.or_and_of_disjoint _ extra _ (AuthData.and_eq_zero_of_sub extra _ _ h (by decide)),
    AuthData.or_and_of_disjoint _ extra _ (AuthData.and_eq_zero_of_sub extra _ _ h (by decide))]
  cases p <;> cases v <;> decide

/-- the UP and UV bits of an encoding whose flag byte is `DEFAULT`, the flags of the answer `(p, v)` and bits
`extra` outside UP and UV (AT for a registration: `to_vec` sets it once more) -/
theorem answer_bits (a : AuthData) (bs : Bytes) (p v : Bool) (extra : UInt8) (hh : a.rpIdHash.length = 32)
    (h : a.toVec = some bs) (hx : extra &&& (Flags.UP ||| Flags.UV) = 0)
    (hf : (if a.acd.isSome then a.flags ||| Flags.AT else a.flags) = (Flags.DEFAULT ||| flagsOf p v) ||| extra) :
    (authDataFlags bs &&& AuthData.Spec.bitUP != 0) = p ∧ (authDataFlags bs &&& AuthData.Spec.bitUV != 0) = v := by
  obtain ⟨tail, rfl⟩ := AuthData.toVec_header h
  -- byte 32 is the flag byte
  have : authDataFlags (a.rpIdHash ++ (if a.acd.isSome then a.flags ||| Flags.AT else a.flags)
      :: (AuthData.be32 (a.counter.getD 0) ++ tail)) = (if a.acd.isSome then a.flags ||| Flags.AT else a.flags) :=
    getD_append_len _ _ 32 0 0 hh
  rw [this, hf]
  exact up_bit_of_flags p v extra hx

/-- what `c04_errors` asks of a ceremony that neither waives presence nor is pre-empted by an option error: a refusal
of the user-validation step is the result, with the store untouched -/
theorem errors_of_refusal (env : Env) (op : OpReq) (o : Obs)
    (hop : match op with | .make r => r.up = true | .get r => r.pinAuth = false ∧ r.rk = false)
    (h : ∀ e, verdict env.uv op.up op.uvReq = .error e → o.res = .err e ∧ o.store = env.pre) :
    c04_errors env op o = true := by
  unfold c04_errors
  dsimp only
  -- not waived, not pre-empted: the first two tests of the clause fail
  rw [if_neg (by cases op with | make r => simpa using hop | get r => exact Bool.false_ne_true),
    if_neg (by cases op with | make r => exact Bool.false_ne_true | get r => simp [hop.1, hop.2])]
  unfold verdict at h
  cases hcap : (op.uvReq && env.uv.verification != some true)
  · simp only [hcap, Bool.false_eq_true, if_false] at h ⊢
    cases ha : env.uv.answer with
    | error c =>
      obtain ⟨h1, h2⟩ := h c (by rw [ha])
      simp [h1, h2, snapsEq]
    | ok a =>
      obtain ⟨p, v⟩ := a
      cases hg : ((!op.up || p) && (!op.uvReq || v))
      · obtain ⟨h1, h2⟩ := h eOperationDenied (by rw [ha]; simp [hg])
        simp [h1, h2, snapsEq]
      · simp [consentGiven, answered, ha, hg]
  · obtain ⟨h1, h2⟩ := h eUnsupportedOption (by rw [hcap]; rfl)
    simp [h1, h2, snapsEq]

end PasskeyVerif.Auth
