/-
Lemmas for C16 (CTAPHID framing).  Sending: one iteration of the loop of `Message::send` writes
header ‖ data ‖ zeros (`sendLoop_cons`).  Receiving: `handle_packet` acts on the entry of the packet's channel
alone (`chanStep`, `handlePacket_eq`); one message through the receiver is `feed_packets`.
-/
import PasskeyVerif.Spec.Hid
namespace PasskeyVerif.Hid
open Spec

theorem Chan.bytes_length (c : Chan) : c.bytes.length = 4 := rfl

theorem u16be_length (n : Nat) : (u16be n).length = 2 := rfl

/- Statements are in the literals 57, 59, 64, as the theorems of C16 are; these rewrite the named constants of the
model and of the specification where a definition is unfolded. -/
theorem initMax_eq : initMax = 57 := rfl
theorem contMax_eq : contMax = 59 := rfl
theorem contData_eq : Spec.contData = 59 := rfl
theorem initData_eq : Spec.initData = 57 := rfl

theorem u16_roundtrip (n : Nat) (h : n < 65536) :
    u16ofBe (UInt8.ofNat (n / 256)) (UInt8.ofNat (n % 256)) = n := by
  simp [u16ofBe, UInt8.toNat_ofNat']
  omega

theorem cmd_desc (c : Command) : c.encode &&& descBit = descBit := by
  cases c <;> decide

theorem cmd_roundtrip (c : Command) : Command.ofByte (c.encode &&& ~~~descBit) = some c := by
  cases c <;> decide

theorem seq_not_desc : ∀ i : Fin 128, (UInt8.ofNat i.val) &&& descBit ≠ descBit := by decide

theorem chunks_nil (n : Nat) : chunks n [] = [] := by
  rw [chunks]; simp

theorem chunks_cons (n : Nat) (l : Bytes) (hl : l ≠ []) (hn : n ≠ 0) :
    chunks n l = l.take n :: chunks n (l.drop n) := by
  rw [chunks]; simp [hl, hn]

theorem contPackets_length (ch : Chan) (s : Nat) (cs : List Bytes) : (contPackets ch s cs).length = cs.length := by
  induction cs generalizing s with
  | nil => rfl
  | cons c cs ih => simp [contPackets, ih]

theorem specCont_nil (ch : Chan) (s : Nat) : Spec.contPackets ch s [] = [] := by
  rw [Spec.contPackets]; simp

theorem specCont_cons (ch : Chan) (s : Nat) (rest : Bytes) (h : rest ≠ []) :
    Spec.contPackets ch s rest
      = Spec.contPacket ch s (rest.take 59) :: Spec.contPackets ch (s + 1) (rest.drop 59) := by
  rw [Spec.contPackets]; simp [h, Spec.contData]

theorem specCont_ne_nil (ch : Chan) (s : Nat) (rest : Bytes) (h : rest ≠ []) : Spec.contPackets ch s rest ≠ [] := by
  rw [specCont_cons _ _ _ h]; exact List.cons_ne_nil _ _

theorem specCont_count (ch : Chan) (s : Nat) (rest : Bytes) :
    (Spec.contPackets ch s rest).length = (rest.length + 58) / 59 := by
  fun_induction Spec.contPackets ch s rest with
  | case1 s => rfl
  | case2 s rest hr ih =>
    have := List.length_pos_iff.mpr hr
    rw [List.length_cons, ih, List.length_drop, contData_eq]
    omega

/-- 7608 = 57 + 128 · 59 - 1 is the largest payload `Message::new` accepts (`new_eq`) -/
theorem specCont_le (ch : Chan) (s : Nat) (data : Bytes) (h : data.length ≤ 7608) :
    (Spec.contPackets ch s (data.drop 57)).length ≤ 128 := by
  rw [specCont_count, List.length_drop]
  omega

theorem packets_count (ch : Chan) (cmd : Command) (data : Bytes) :
    (Spec.packets ch cmd data).length = 1 + (data.length - 57 + 58) / 59 := by
  rw [Spec.packets, List.length_cons, specCont_count, List.length_drop, initData_eq, Nat.add_comm]

/-- the header as `InitHeader::encode` / `ContHeader::encode` write it -/
def PacketHeader.bytes : PacketHeader → Bytes
  | .initialization h => h.channel.bytes ++ [h.command.encode] ++ u16be h.payloadLen
  | .continuation h => h.channel.bytes ++ [h.seq]

theorem PacketHeader.bytes_length (h : PacketHeader) : h.bytes.length = h.len := by
  cases h <;> rfl

theorem pad_length (bs : Bytes) (h : bs.length ≤ 64) : (Spec.pad bs).length = 64 := by
  simp [Spec.pad, Spec.packetSize]; omega

theorem writeAt_zero (buf hdr : Bytes) (h : hdr.length ≤ buf.length) :
    writeAt buf 0 hdr = some (hdr ++ buf.drop hdr.length) := by
  simp [writeAt, h]

theorem writeAt_after (hdr tail data : Bytes) (h : data.length ≤ tail.length) :
    writeAt (hdr ++ tail) hdr.length data = some (hdr ++ data ++ tail.drop data.length) := by
  unfold writeAt
  rw [if_pos (by simp; omega)]
  simp

theorem zeroFrom_length (buf : Bytes) (n : Nat) (h : n ≤ buf.length) : (zeroFrom buf n).length = buf.length := by
  simp [zeroFrom, List.length_take]; omega

theorem zeroFrom_drop (buf : Bytes) (n : Nat) (h : n ≤ buf.length) :
    (zeroFrom buf n).drop n = List.replicate (buf.length - n) 0 := by
  unfold zeroFrom
  rw [List.drop_left']
  simp [List.length_take]; omega

/-- the headers `Message::new` can make: `u16::try_from(payload_len)` in `InitHeader::encode` succeeds -/
def PacketHeader.Fits : PacketHeader → Prop
  | .initialization h => h.payloadLen ≤ 65535
  | .continuation _ => True

theorem PacketHeader.len_le (h : PacketHeader) : h.len ≤ 7 := by
  cases h
  · exact Nat.le_refl 7
  · exact (by decide : 5 ≤ 7)

theorem wire_length (h : PacketHeader) (d : Bytes) (hd : d.length ≤ 64 - h.len) : (Spec.pad (h.bytes ++ d)).length = 64 := by
  have := h.len_le
  exact pad_length _ (by rw [List.length_append, h.bytes_length]; omega)

theorem encode_eq (h : PacketHeader) (data buf : Bytes) (hb : buf.length = 64) (hd : data.length ≤ 64 - h.len)
    (hp : h.Fits) : h.encode data buf = some (h.bytes ++ data ++ buf.drop (h.len + data.length)) := by
  have hl := h.len_le
  have hz := writeAt_zero buf h.bytes (by rw [h.bytes_length, hb]; omega)
  have hw := writeAt_after h.bytes (buf.drop h.bytes.length) data (by rw [List.length_drop, h.bytes_length, hb]; omega)
  rw [List.drop_drop, h.bytes_length] at hw
  cases h with
  | initialization ih =>
    have hd : data.length ≤ 57 := hd
    simp only [PacketHeader.encode, PacketHeader.bytes] at hz ⊢
    rw [if_neg (Nat.not_lt.mpr hp), hz]
    simp only
    rw [if_neg (by rw [initMax_eq]; split <;> omega)]
    exact hw
  | continuation ch =>
    have hd : data.length ≤ 59 := hd
    simp only [PacketHeader.encode, PacketHeader.bytes] at hz ⊢
    rw [hz]
    simp only
    rw [if_neg (by rw [contMax_eq]; split <;> omega)]
    exact hw

/-- One iteration of the loop of `send`: the packet written is header ‖ data ‖ zeros, because the buffer's tail
is zeroed before the last packet and every earlier packet fills the buffer. -/
theorem sendLoop_cons (last i : Nat) (buf : Bytes) (h : PacketHeader) (d : Bytes) (rest : List (PacketHeader × Bytes))
    (hb : buf.length = 64) (hd : d.length ≤ 64 - h.len) (hfull : i ≠ last → d.length = 64 - h.len) (hp : h.Fits) :
    sendLoop last i buf ((h, d) :: rest)
      = (sendLoop last (i + 1) (Spec.pad (h.bytes ++ d)) rest).map (Spec.pad (h.bytes ++ d) :: ·) := by
  have hl := h.len_le
  have hpad : Spec.pad (h.bytes ++ d) = h.bytes ++ d ++ List.replicate (64 - (h.len + d.length)) 0 := by
    rw [Spec.pad, List.length_append, h.bytes_length]
    rfl
  have henc : h.encode d (if i = last then zeroFrom buf (h.len + d.length) else buf) = some (Spec.pad (h.bytes ++ d)) := by
    rw [hpad]
    split
    · rw [encode_eq h d _ (by rw [zeroFrom_length _ _ (by omega), hb]) hd hp, zeroFrom_drop _ _ (by omega), hb]
    · rename_i hne
      rw [encode_eq h d buf hb hd hp, List.drop_of_length_le (by rw [hfull hne]; omega), hfull hne,
        show 64 - (h.len + (64 - h.len)) = 0 by omega]
      rfl
  simp only [sendLoop, henc]
  cases sendLoop last (i + 1) (Spec.pad (h.bytes ++ d)) rest <;> rfl

theorem sendLoop_conts (ch : Chan) (last s : Nat) (rest buf : Bytes) (hb : buf.length = 64)
    (hl : s + (chunks 59 rest).length = last) :
    sendLoop last (s + 1) buf (contPackets ch s (chunks 59 rest)) = some (Spec.contPackets ch s rest) := by
  fun_induction Spec.contPackets ch s rest generalizing buf with
  | case1 s => rw [chunks_nil]; rfl
  | case2 s rest hr ih =>
    rw [chunks_cons _ _ hr (by decide)] at hl ⊢
    rw [contData_eq] at ih ⊢
    rw [List.length_cons] at hl
    have hfull : s + 1 ≠ last → (rest.take 59).length = 59 := by
      intro hne
      refine List.length_take_of_le (Nat.le_of_not_lt fun hlt => hne ?_)
      rw [List.drop_of_length_le (Nat.le_of_lt hlt), chunks_nil] at hl
      exact hl
    rw [contPackets,
      sendLoop_cons _ _ _ (.continuation ⟨ch, .ofNat s⟩) _ _ hb (List.length_take_le 59 rest) hfull trivial,
      ih _ (wire_length _ _ (List.length_take_le 59 rest)) (by omega)]
    rfl

/-- `rest / 59 + 1 > 128` counts a packet too many at exact multiples of 59, so 7609 = 57 + 128 · 59 is refused -/
theorem new_eq (ch : Chan) (cmd : Command) (data : Bytes) :
    Msg.new ch cmd data = if data.length ≤ 7608 then some ⟨ch, cmd, 0, data.length, data⟩ else none := by
  unfold Msg.new
  rw [initMax_eq, contMax_eq]
  by_cases h : data.length ≤ 7608
  · rw [if_neg (by omega), if_neg (by omega), if_pos h]
  · rw [if_neg h]
    split
    · rfl
    · rw [if_pos (by omega)]

theorem send_packets (ch : Chan) (cmd : Command) (data : Bytes) (hlen : data.length ≤ 7608) :
    Msg.send ⟨ch, cmd, 0, data.length, data⟩ = some (Spec.packets ch cmd data) := by
  unfold Msg.send Msg.toPackets Spec.packets
  simp only
  rw [initMax_eq, contMax_eq, initData_eq]
  have hb : (List.replicate maxPacket (0 : UInt8)).length = 64 := List.length_replicate
  have hp : (PacketHeader.initialization ⟨ch, cmd, data.length⟩).Fits := Nat.le_trans hlen (by decide)
  split
  · rename_i hs
    change sendLoop 0 0 _ _ = _
    rw [sendLoop_cons 0 0 _ (.initialization ⟨ch, cmd, data.length⟩) data _ hb hs (fun h => absurd rfl h) hp,
      List.drop_of_length_le hs, specCont_nil]
    simp only [Spec.initPacket, initData_eq, List.take_of_length_le hs]
    rfl
  · rename_i hs
    rw [sendLoop_cons _ _ _ (.initialization ⟨ch, cmd, data.length⟩) _ _ hb (List.length_take_le 57 data)
        (fun _ => List.length_take_of_le (Nat.le_of_not_le hs)) hp,
      sendLoop_conts _ _ _ _ _ (wire_length _ _ (List.length_take_le 57 data)) (by simp [contPackets_length])]
    rfl

theorem initTryFrom_chan (ch : Chan) (data : Bytes) (x : InitHeader × Bytes)
    (hp : InitHeader.tryFrom ch data = some x) : x.1.channel = ch := by
  revert hp
  fun_cases InitHeader.tryFrom ch data
  all_goals intro hp; cases hp
  all_goals rfl

def PacketHeader.channel : PacketHeader → Chan
  | .initialization h => h.channel
  | .continuation h => h.channel

theorem tryFrom_chan (pkt : Bytes) (h : PacketHeader) (d : Bytes)
    (hp : PacketHeader.tryFrom pkt = some (h, d)) : Spec.chanOf pkt = some h.channel := by
  revert hp
  fun_cases PacketHeader.tryFrom pkt
  all_goals intro hp; cases hp
  · rename_i heq
    exact congrArg some (initTryFrom_chan _ _ _ heq).symm
  · rfl

def Table.set (t : Table) (c : Chan) (e : Option Msg) : Table := fun c' => if c' = c then e else t c'

theorem Table.remove_eq (t : Table) (c : Chan) : t.remove c = t.set c none := rfl

theorem Table.set_same (t : Table) (c : Chan) (e : Option Msg) : t.set c e c = e := if_pos rfl

theorem Table.set_other (t : Table) (c : Chan) (e : Option Msg) (c' : Chan) (h : c' ≠ c) : t.set c e c' = t c' :=
  if_neg h

theorem Table.set_eq_self {t : Table} {c : Chan} {e : Option Msg} (h : t c = e) : t.set c e = t := by
  funext c'; unfold Table.set; split
  · rename_i h'; rw [h', h]
  · rfl

theorem Table.set_set (t : Table) (c : Chan) (e e' : Option Msg) : (t.set c e).set c e' = t.set c e' := by
  funext c'; unfold Table.set; split <;> rfl

/-- What `handle_packet` does with a packet, seen from the packet's own channel:
entry before ↦ (entry after, answer). -/
def chanStep (e : Option Msg) (pkt : Bytes) : Option Msg × Option Msg :=
  match PacketHeader.tryFrom pkt with
  | none => (e, none)
  | some (.initialization ih, d) =>
    if (Msg.init ih d).isComplete then (e, some (Msg.init ih d)) else (some (Msg.init ih d), none)
  | some (.continuation ch, d) =>
    match e with
    | none => (none, none)
    | some m =>
      match (m.extend ch d).2 with
      | .ok true => (none, some (m.extend ch d).1)
      | _ => (some (m.extend ch d).1, none)

theorem handlePacket_eq (t : Table) (pkt : Bytes) (c : Chan) (hc : Spec.chanOf pkt = some c) :
    handlePacket t pkt = (t.set c (chanStep (t c) pkt).1, (chanStep (t c) pkt).2) := by
  unfold handlePacket chanStep
  cases hp : PacketHeader.tryFrom pkt with
  | none => exact congrArg (·, none) (Table.set_eq_self rfl).symm
  | some x =>
    obtain ⟨h, d⟩ := x
    cases (tryFrom_chan pkt h d hp).symm.trans hc
    cases h with
    | initialization ih =>
      dsimp only [PacketHeader.channel]
      split
      · rw [Table.set_eq_self rfl]
      · rfl
    | continuation ch =>
      dsimp only [PacketHeader.channel]
      cases ht : t ch.channel with
      | none => exact congrArg (·, none) (Table.set_eq_self ht).symm
      | some m =>
        dsimp only
        rcases m.extend ch d with ⟨m', _ | _ | _⟩ <;> rfl

theorem handlePacket_nochan (t : Table) (pkt : Bytes) (hc : Spec.chanOf pkt = none) : handlePacket t pkt = (t, none) := by
  unfold handlePacket
  cases hp : PacketHeader.tryFrom pkt with
  | none => rfl
  | some x => rw [tryFrom_chan pkt x.1 x.2 hp] at hc; cases hc

theorem initPacket_cons (ch : Chan) (cmd : Command) (data : Bytes) :
    Spec.initPacket ch cmd data = ch.b0 :: ch.b1 :: ch.b2 :: ch.b3 :: cmd.encode ::
      UInt8.ofNat (data.length / 256) :: UInt8.ofNat (data.length % 256) ::
      (data.take 57 ++ List.replicate (57 - (data.take 57).length) 0) := by
  simp [Spec.initPacket, Spec.pad, Spec.packetSize, Chan.bytes, Spec.initData, Command.encode, descBit]

theorem contPacket_cons (ch : Chan) (s : Nat) (c : Bytes) :
    Spec.contPacket ch s c = ch.b0 :: ch.b1 :: ch.b2 :: ch.b3 :: UInt8.ofNat s ::
      (c ++ List.replicate (59 - c.length) 0) := by
  simp [Spec.contPacket, Spec.pad, Spec.packetSize, Chan.bytes]

theorem initPacket_length (ch : Chan) (cmd : Command) (data : Bytes) : (Spec.initPacket ch cmd data).length = 64 :=
  wire_length (.initialization ⟨ch, cmd, data.length⟩) _ (List.length_take_le 57 data)

theorem contPacket_length (ch : Chan) (s : Nat) (c : Bytes) (h : c.length ≤ 59) : (Spec.contPacket ch s c).length = 64 :=
  wire_length (.continuation ⟨ch, .ofNat s⟩) c h

theorem chanOf_initPacket (ch : Chan) (cmd : Command) (data : Bytes) :
    Spec.chanOf (Spec.initPacket ch cmd data) = some ch := by
  rw [initPacket_cons]; rfl

theorem chanOf_contPacket (ch : Chan) (s : Nat) (c : Bytes) : Spec.chanOf (Spec.contPacket ch s c) = some ch := by
  rw [contPacket_cons]; rfl

theorem parse_init (ch : Chan) (cmd : Command) (data : Bytes) (h : data.length ≤ 65535) :
    PacketHeader.tryFrom (Spec.initPacket ch cmd data)
      = some (.initialization ⟨ch, cmd, data.length⟩, data.take 57) := by
  unfold PacketHeader.tryFrom
  rw [if_neg (by rw [initPacket_length]; decide), initPacket_cons]
  dsimp only
  rw [if_pos (cmd_desc cmd)]
  unfold InitHeader.tryFrom
  dsimp only
  rw [cmd_roundtrip, u16_roundtrip _ (by omega), initMax_eq]
  dsimp only
  by_cases hb : data.length > 57
  · have : (data.take 57).length = 57 := by simp [List.length_take]; omega
    rw [if_pos hb]
    simp [this]
  · rw [if_neg hb, if_pos (by simp; omega), List.take_append_of_le_length (by simp; omega),
      List.take_of_length_le (by simp; omega)]

theorem parse_cont (ch : Chan) (s : Nat) (c : Bytes) (hs : s < 128) (hc : c.length ≤ 59) :
    PacketHeader.tryFrom (Spec.contPacket ch s c)
      = some (.continuation ⟨ch, UInt8.ofNat s⟩, c ++ List.replicate (59 - c.length) 0) := by
  unfold PacketHeader.tryFrom
  rw [if_neg (by rw [contPacket_length _ _ _ hc]; decide), contPacket_cons]
  dsimp only
  rw [if_neg (seq_not_desc ⟨s, hs⟩)]

theorem chanStep_init (e : Option Msg) (ch : Chan) (cmd : Command) (data : Bytes) (h : data.length ≤ 65535) :
    chanStep e (Spec.initPacket ch cmd data)
      = if data.length ≤ 57 then (e, some ⟨ch, cmd, 0, data.length, data⟩)
        else (some ⟨ch, cmd, 0, data.length, data.take 57⟩, none) := by
  unfold chanStep
  rw [parse_init ch cmd data h]
  simp only [Msg.init, Msg.isComplete, beq_iff_eq, List.length_take]
  by_cases hl : data.length ≤ 57
  · rw [if_pos (by omega), if_pos hl, List.take_of_length_le hl]
  · rw [if_neg (by omega), if_neg hl]

theorem chanStep_cont (m : Msg) (rest : Bytes) (hs : m.sequence < 128)
    (hlen : m.payload.length + rest.length = m.payloadLen) :
    chanStep (some m) (Spec.contPacket m.channel m.sequence (rest.take 59))
      = if rest.length ≤ 59
        then (none, some { m with sequence := m.sequence + 1, payload := m.payload ++ rest })
        else (some { m with sequence := m.sequence + 1, payload := m.payload ++ rest.take 59 }, none) := by
  unfold chanStep Msg.extend
  rw [parse_cont _ _ _ hs (List.length_take_le 59 rest)]
  dsimp only
  rw [if_neg (by simp), if_pos (UInt8.toNat_ofNat_of_lt' (Nat.lt_trans hs (by decide))), contMax_eq]
  by_cases hlast : rest.length ≤ 59
  · rw [List.take_of_length_le hlast, if_pos (by omega), if_pos (by simp; omega),
      List.take_append_of_le_length (by omega), List.take_of_length_le (by omega), if_pos hlast]
  · rw [if_neg (by omega), List.length_take_of_le (by omega), if_neg hlast]
    simp

theorem chanStep_orphan (b0 b1 b2 b3 s : UInt8) (rest : Bytes) (hs : s &&& descBit ≠ descBit) :
    chanStep none (b0 :: b1 :: b2 :: b3 :: s :: rest) = (none, none) := by
  unfold chanStep PacketHeader.tryFrom
  dsimp only
  rw [if_neg hs]
  -- the packet is refused for its length or parsed as a continuation, never as an initialisation packet
  split
  · rfl
  · rename_i heq
    split at heq <;> cases heq
  · rfl

theorem feed_cons (t : Table) (p : Bytes) (ps : List Bytes) :
    feed t (p :: ps) = ((feed (handlePacket t p).1 ps).1, (handlePacket t p).2 :: (feed (handlePacket t p).1 ps).2) := rfl

theorem feed_append (t : Table) (a b : List Bytes) :
    feed t (a ++ b) = ((feed (feed t a).1 b).1, (feed t a).2 ++ (feed (feed t a).1 b).2) := by
  induction a generalizing t with
  | nil => rfl
  | cons p ps ih => simp only [List.cons_append, feed_cons, ih]

theorem feed_cons_none (t t1 t2 : Table) (p : Bytes) (ps : List Bytes) (x : Option Msg)
    (hp : handlePacket t p = (t1, none)) (hne : ps ≠ [])
    (hps : feed t1 ps = (t2, List.replicate (ps.length - 1) none ++ [x])) :
    feed t (p :: ps) = (t2, List.replicate ((p :: ps).length - 1) none ++ [x]) := by
  have := List.length_pos_iff.mpr hne
  rw [feed_cons, hp, hps, List.length_cons, Nat.add_sub_cancel, show ps.length = ps.length - 1 + 1 by omega,
    List.replicate_succ]
  rfl

theorem feed_conts (ch : Chan) (s : Nat) (rest : Bytes) (t : Table) (cmd : Command) (n : Nat) (pre : Bytes)
    (ht : t ch = some ⟨ch, cmd, s, n, pre⟩) (hcount : s + (Spec.contPackets ch s rest).length ≤ 128)
    (hlen : pre.length + rest.length = n) (hr : rest ≠ []) :
    feed t (Spec.contPackets ch s rest)
      = (t.remove ch, List.replicate ((Spec.contPackets ch s rest).length - 1) none
          ++ [some ⟨ch, cmd, s + (Spec.contPackets ch s rest).length, n, pre ++ rest⟩]) := by
  fun_induction Spec.contPackets ch s rest generalizing t pre with
  | case1 s => exact absurd rfl hr
  | case2 s rest hr ih =>
    rw [contData_eq] at ih hcount ⊢
    rw [List.length_cons] at hcount
    have hstep := handlePacket_eq t _ _ (chanOf_contPacket ch s (rest.take 59))
    rw [ht, chanStep_cont ⟨ch, cmd, s, n, pre⟩ rest (by dsimp only; omega) hlen] at hstep
    split at hstep
    · rename_i hlast
      rw [List.drop_of_length_le hlast, specCont_nil, feed_cons, hstep]
      rfl
    · rename_i hlast
      have hne : rest.drop 59 ≠ [] := List.length_pos_iff.mp (by rw [List.length_drop]; omega)
      refine feed_cons_none t _ _ _ _ _ hstep (specCont_ne_nil _ _ _ hne) ?_
      rw [ih _ _ (Table.set_same _ _ _) (by omega)
        (by simp only [List.length_append, List.length_take, List.length_drop]; omega) hne]
      simp [Table.remove_eq, Table.set_set, Nat.add_assoc, Nat.add_comm 1]

/-- A single-packet message leaves the table as it was: `handle_packet` does not drop an unfinished transfer
on its channel (DESIGN §9.3). -/
theorem feed_packets (ch : Chan) (cmd : Command) (data : Bytes) (hd : data.length ≤ 7608) (t : Table) :
    feed t (Spec.packets ch cmd data)
      = (if data.length ≤ 57 then t else t.remove ch,
         List.replicate ((Spec.packets ch cmd data).length - 1) none
          ++ [some ⟨ch, cmd, (Spec.packets ch cmd data).length - 1, data.length, data⟩]) := by
  have hstep := handlePacket_eq t _ _ (chanOf_initPacket ch cmd data)
  rw [chanStep_init _ ch cmd data (by omega)] at hstep
  unfold Spec.packets
  rw [initData_eq]
  split at hstep
  · rename_i hs
    rw [feed_cons, hstep, List.drop_of_length_le hs, specCont_nil, if_pos hs, Table.set_eq_self rfl]
    rfl
  · rename_i hs
    have hne : data.drop 57 ≠ [] := List.length_pos_iff.mp (by simp; omega)
    refine feed_cons_none t _ _ _ _ _ hstep (specCont_ne_nil _ _ _ hne) ?_
    rw [feed_conts ch 0 _ _ cmd data.length (data.take 57) (Table.set_same _ _ _)
      (by rw [Nat.zero_add]; exact specCont_le ch 0 data hd) (by simp only [List.length_take, List.length_drop]; omega) hne,
      if_neg hs]
    simp [Table.remove_eq, Table.set_set]

theorem sub_cons (c : Chan) (p : Bytes) (ps : List Bytes) :
    Spec.sub c (p :: ps) = if Spec.chanOf p = some c then p :: Spec.sub c ps else Spec.sub c ps := by
  simp only [Spec.sub, List.filter_cons, decide_eq_true_eq]

theorem sub_of_merge (ss : List (Chan × List Bytes)) (pkts : List Bytes) (hm : Spec.IsMerge ss pkts) :
    (∀ x ∈ ss, ∀ p ∈ x.2, Spec.chanOf p = some x.1) → (ss.map (·.1)).Nodup →
    ∀ x ∈ ss, Spec.sub x.1 pkts = x.2 := by
  induction hm with
  | done ss hall => intro _ _ x hx; rw [hall x hx]; rfl
  | step pre c p s post rest _ ih =>
    intro hhom hnd x hx
    simp only [List.forall_mem_append, List.forall_mem_cons] at hhom ih
    obtain ⟨hpre, ⟨hp, hs⟩, hpost⟩ := hhom
    have ih := ih ⟨hpre, hs, hpost⟩ (by simpa using hnd)
    simp only [List.map_append, List.map_cons, List.nodup_append, List.nodup_cons, List.mem_cons, List.mem_map] at hnd
    rw [List.mem_append, List.mem_cons] at hx
    have hskip : ∀ c', c' ≠ c → Spec.sub c' (p :: rest) = Spec.sub c' rest :=
      fun c' hne => by rw [sub_cons, hp, if_neg (fun e => hne (Option.some.inj e).symm)]
    -- by `hnd` only the stream that `p` was taken from is labelled `c`
    rcases hx with hx | rfl | hx
    · rw [hskip _ (hnd.2.2 x.1 ⟨x, hx, rfl⟩ c (Or.inl rfl))]
      exact ih.1 x hx
    · rw [sub_cons, if_pos hp, ih.2.1]
    · rw [hskip _ (fun e => hnd.2.1.1 ⟨x, hx, e⟩)]
      exact ih.2.2 x hx

/-- `extend` refuses a header of another channel first, so no invariant on the table is needed for the channel -/
theorem extend_done (m m' : Msg) (h : ContHeader) (d : Bytes) (hx : m.extend h d = (m', .ok true)) :
    m'.channel = h.channel ∧ (m.payload.length ≤ m.payloadLen → m'.payload.length = m'.payloadLen) := by
  revert hx
  fun_cases Msg.extend m h d
  all_goals intro hx; cases hx
  refine ⟨Decidable.of_not_not ‹_›, fun hle => ?_⟩
  simp only [List.length_append, List.length_take]
  omega

theorem handlePacket_delivers (t : Table) (pkt : Bytes) (m : Msg) (h : (handlePacket t pkt).2 = some m) :
    (∃ ih d, PacketHeader.tryFrom pkt = some (.initialization ih, d) ∧ m = Msg.init ih d ∧ m.isComplete = true)
    ∨ (∃ ch d m0, PacketHeader.tryFrom pkt = some (.continuation ch, d) ∧ t ch.channel = some m0
        ∧ m0.extend ch d = (m, .ok true)) := by
  revert h
  fun_cases handlePacket t pkt with
  | case2 ih d hp _ hc => intro h; exact Or.inl ⟨ih, d, hp, (Option.some.inj h).symm, Option.some.inj h ▸ hc⟩
  | case5 ch d hp m0 ht m' hx => intro h; cases h; exact Or.inr ⟨ch, d, m0, hp, ht, hx⟩
  | _ => intro h; cases h

theorem handlePacket_delivers_chan (t : Table) (pkt : Bytes) (m : Msg) (h : (handlePacket t pkt).2 = some m) :
    Spec.chanOf pkt = some m.channel := by
  rcases handlePacket_delivers t pkt m h with ⟨ih, d, hp, rfl, _⟩ | ⟨ch, d, m0, hp, _, hx⟩
  · exact tryFrom_chan pkt _ d hp
  · rw [tryFrom_chan pkt _ d hp, (extend_done m0 m ch d hx).1]
    rfl

theorem delivered_by_channel (c : Chan) (pkts : List Bytes) (t : Table) :
    (Spec.delivered (feed t pkts).2).filter (fun m => m.channel = c)
      = Spec.delivered (Spec.outsOf c pkts (feed t pkts).2) := by
  induction pkts generalizing t with
  | nil => rfl
  | cons p ps ih =>
    have ih := ih (handlePacket t p).1
    rw [feed_cons]
    simp only [Spec.outsOf, Spec.delivered] at ih ⊢
    cases ho : (handlePacket t p).2 with
    | none => split <;> exact ih
    | some m =>
      rw [handlePacket_delivers_chan t p m ho]
      by_cases hc : m.channel = c
      · simp [hc, ih]
      · simp [hc, ih]

theorem mem_packets (ch : Chan) (cmd : Command) (data p : Bytes) (hp : p ∈ Spec.packets ch cmd data) :
    p = Spec.initPacket ch cmd data ∨ ∃ k c, c.length ≤ 59 ∧ p = Spec.contPacket ch k c := by
  refine (List.mem_cons.mp hp).imp_right fun hp => ?_
  generalize 0 = s at hp
  generalize data.drop Spec.initData = rest at hp
  fun_induction Spec.contPackets ch s rest with
  | case1 s => cases hp
  | case2 s rest hr ih =>
    rcases List.mem_cons.mp hp with rfl | hp
    · exact ⟨s, _, List.length_take_le _ _, rfl⟩
    · exact ih hp

theorem streamOf_chan (c : Chan) (msgs : List (Command × Bytes)) : ∀ p ∈ Spec.streamOf c msgs, Spec.chanOf p = some c := by
  intro p hp
  simp only [Spec.streamOf, List.mem_flatten, List.mem_map] at hp
  obtain ⟨l, ⟨x, _, rfl⟩, hpl⟩ := hp
  rcases mem_packets c x.1 x.2 p hpl with rfl | ⟨k, y, _, rfl⟩
  · exact chanOf_initPacket _ _ _
  · exact chanOf_contPacket _ _ _

end PasskeyVerif.Hid
