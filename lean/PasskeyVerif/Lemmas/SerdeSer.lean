/- The round trip of the serde model: what the serialiser model writes, the parser model reads back. -/
import PasskeyVerif.Model.SerdeSer
import PasskeyVerif.Lemmas.Serde
import PasskeyVerif.Lemmas.Decimal
import PasskeyVerif.Lemmas.Base64
namespace PasskeyVerif.Serde
open PasskeyVerif.Json

theorem numOf_toString (i lo hi : Int) (hr : WJson.i64Min ≤ i ∧ i ≤ WJson.i64Max) (h : lo ≤ i ∧ i ≤ hi) :
    WJson.numOf (.num (toString i)) lo hi = some (some i) := by
  simp only [WJson.numOf, WJson.ofToken_toString i hr, WJson.finish, h, and_self, if_true]

theorem bytesOf_serBytes (b64 : Bool) (b : List UInt8) : WJson.bytesOf (serBytes b64 b) = some b := by
  cases b64 with
  | true => exact Base64.decodeLenient_encodeUrl b
  | false =>
    simp only [serBytes, Bool.false_eq_true, if_false]
    induction b with
    | nil => rfl
    | cons x xs ih => exact WJson.bytesOf_arr_cons _ x _ xs (WJson.parseDecimal_nat x.toNat false) ih

/-- `wt` and `serTy` read backwards, type by type -/
theorem wt_ser_cases {S : Schema} {b64 : Bool} {kA : Int → Bool} {d : Nat} {ty : Ty} {v : Val} {j : Json}
    (hw : wt S kA (d + 1) ty v = true) (hs : serTy S b64 (d + 1) ty v = some j) :
    match (generalizing := false) ty with
    | .bytes => ∃ b, v = .bytes b ∧ j = serBytes b64 b
    | .str => ∃ s, v = .str s ∧ j = .str s
    | .bool => ∃ b, v = .bool b ∧ j = .bool b
    | .i64 => ∃ i, v = .int i ∧ j = .num (toString i) ∧ WJson.i64Min ≤ i ∧ i ≤ WJson.i64Max
    | .u32 => ∃ i, v = .int i ∧ j = .num (toString i) ∧ 0 ≤ i ∧ i ≤ 4294967295
    | .alg => ∃ i, v = .int i ∧ j = .num (toString i) ∧ kA i = true ∧ WJson.i64Min ≤ i ∧ i ≤ WJson.i64Max
    | .enum n => ∃ s e, v = .enumv s ∧ j = .str s ∧ S.enum? n = some e ∧ e.variantOf s = some s
    | .opt t => (v = .none ∧ j = .null) ∨ ∃ x, v = .some x ∧ notOpt t = true ∧ wt S kA d t x = true ∧ serTy S b64 d t x = some j
    | .vec t => ∃ l js, v = .list l ∧ j = .arr js ∧ (∀ x ∈ l, wt S kA d t x = true) ∧ serList (serTy S b64 d t) l = some js
    | .struct n => ∃ fs sd js, v = .record n fs ∧ j = .obj js ∧ S.struct? n = some sd
        ∧ wtFields (wt S kA d) sd.fields fs = true ∧ serFields (serTy S b64 d) sd.fields fs = some js
    | .mapStr _ => False := by
  -- the cases of `wt`, in the order of its definition: a type and a value of its shape; on every other pair it is `false`
  unfold wt at hw
  split at hw
  next b => exact ⟨b, rfl, (Option.some.inj hs).symm⟩
  next s => exact ⟨s, rfl, (Option.some.inj hs).symm⟩
  next b => exact ⟨b, rfl, (Option.some.inj hs).symm⟩
  next i => exact ⟨i, rfl, (Option.some.inj hs).symm, of_decide_eq_true hw⟩
  next i => exact ⟨i, rfl, (Option.some.inj hs).symm, of_decide_eq_true hw⟩
  next i =>
    obtain ⟨hk, hr⟩ := Bool.and_eq_true_iff.mp hw
    exact ⟨i, rfl, (Option.some.inj hs).symm, hk, of_decide_eq_true hr⟩
  next n s =>
    cases he : S.enum? n with
    | none =>
      rw [he] at hw
      cases hw
    | some e =>
      rw [he] at hw
      exact ⟨s, e, rfl, (Option.some.inj hs).symm, he, beq_iff_eq.mp hw⟩
  next t => exact Or.inl ⟨rfl, (Option.some.inj hs).symm⟩
  next t x =>
    obtain ⟨ht, hx⟩ := Bool.and_eq_true_iff.mp hw
    exact Or.inr ⟨x, rfl, ht, hx, hs⟩
  next t l =>
    obtain ⟨js, hjs, rfl⟩ := Option.map_eq_some_iff.mp hs
    exact ⟨l, js, rfl, rfl, List.all_eq_true.mp hw, hjs⟩
  next n n' fs =>
    obtain ⟨hn, hf⟩ := Bool.and_eq_true_iff.mp hw
    cases beq_iff_eq.mp hn
    rw [serTy, if_pos hn] at hs
    cases hsd : S.struct? n with
    | none =>
      rw [hsd] at hf
      cases hf
    | some sd =>
      rw [hsd] at hf hs
      obtain ⟨js, hjs, rfl⟩ := Option.map_eq_some_iff.mp hs
      exact ⟨fs, sd, js, rfl, rfl, hsd, hf, hjs⟩
  next => cases hw

/-- `null` is read as no value of a type other than `Option`: so `Some` and `None` stay apart -/
theorem parseTy_null (S : Schema) (kA : Int → Bool) (F : Nat) (b : Bool) {t : Ty} (x : Val) (hn : notOpt t = true) :
    parseTy S kA F b t .null ≠ .ok x := by
  cases F with
  | zero => nofun
  | succ F =>
    cases t with
    | opt t => cases hn
    | _ =>
      intro h
      cases h

theorem read_serList (ser : Val → Option Json) (p : Json → R Val) (l : List Val) (js : List Json)
    (h : serList ser l = some js) (hp : ∀ x ∈ l, ∀ j, ser x = some j → p j = .ok x) :
    R.mapM p js = .ok l ∧ lenientList p js = .ok l := by
  fun_induction serList ser l generalizing js with
  | case1 => cases h; exact ⟨rfl, rfl⟩
  | case2 x xs j js' hxs hx ih =>
    cases h
    obtain ⟨ih₁, ih₂⟩ := ih js' hxs fun y hy => hp y (List.mem_cons_of_mem _ hy)
    simp only [R.mapM, lenientList, hp x List.mem_cons_self j hx, ih₁, ih₂, R.map, and_self]
  | case3 => cases h

/-- the (rust name, value) pairs of the members that are written -/
def presentPairs : List Field → List (String × Val) → List (String × Val)
  | fd :: fds, (_, v) :: vs =>
    (if fd.skipNone && v.isNone then [] else [(fd.rust, v)]) ++ presentPairs fds vs
  | _, _ => []

/-- the members that were written are read back: each is found under its own name (`hff`), none twice (`hseen`, `hnd`) -/
theorem memberList_serFields (sd : StructDef) (ser : Ty → Val → Option Json) (w : Ty → Val → Bool) (p : Field → Json → R Val)
    (hff : ∀ fd ∈ sd.fields, sd.fieldFor fd.json = some fd)
    (hp : ∀ fd ∈ sd.fields, ∀ v j, w fd.ty v = true → ser fd.ty v = some j → (fd.skipNone && v.isNone) = false → p fd j = .ok v)
    (fds : List Field) (vs : List (String × Val)) (js : List (String × Json)) (seen : List (String × Val))
    (hin : ∀ fd ∈ fds, fd ∈ sd.fields) (hnd : (fds.map (·.rust)).Nodup) (hseen : ∀ fd ∈ fds, seen.any (·.1 == fd.rust) = false)
    (hw : wtFields w fds vs = true) (hs : serFields ser fds vs = some js) :
    memberList sd p js seen = .ok (seen ++ presentPairs fds vs) := by
  fun_induction serFields ser fds vs generalizing js seen with
  | case1 => cases hs; simp [memberList, presentPairs]
  | case3 fd fds k v vs _ hskip ih =>
    simp only [wtFields, Bool.and_eq_true] at hw
    simpa [presentPairs, hskip] using ih js seen (fun g hg => hin g (List.mem_cons_of_mem _ hg)) (List.nodup_cons.mp hnd).2
      (fun g hg => hseen g (List.mem_cons_of_mem _ hg)) hw.2 hs
  | case4 fd fds k v vs _ hskip j rest hrest hj ih =>
    cases hs
    simp only [wtFields, Bool.and_eq_true, beq_iff_eq] at hw
    obtain ⟨⟨rfl, hwv⟩, hwrest⟩ := hw
    have hfd := hin fd List.mem_cons_self
    have hskip : (fd.skipNone && v.isNone) = false := by simpa using hskip
    have ih := ih rest (seen ++ [(fd.rust, v)]) (fun g hg => hin g (List.mem_cons_of_mem _ hg)) (List.nodup_cons.mp hnd).2
      (fun g hg => by
        have hne : fd.rust ≠ g.rust := fun e => (List.nodup_cons.mp hnd).1 (List.mem_map.mpr ⟨g, hg, e.symm⟩)
        simpa [hseen g (List.mem_cons_of_mem _ hg)] using hne)
      hwrest hrest
    simp [memberList, hff fd hfd, hseen fd List.mem_cons_self, hp fd hfd v j hwv hj hskip, ih, presentPairs, hskip]
  | case2 | case5 | case6 => cases hs

theorem find_presentPairs (fds : List Field) (vs : List (String × Val)) (n : String) (hn : n ∉ fds.map (·.rust)) :
    (presentPairs fds vs).find? (·.1 == n) = none := by
  fun_induction presentPairs fds vs with
  | case1 fd fds k v vs ih =>
    rw [List.map_cons, List.mem_cons, not_or] at hn
    rw [List.find?_append, ih hn.2]
    split <;> simp [Ne.symm hn.1]
  | case2 => rfl

theorem assembleField_absent (S : Schema) (seen : List (String × Val)) (f : Field) (hok : fieldOk f = true) (hs : f.skipNone = true)
    (hfind : seen.find? (·.1 == f.rust) = none) : assembleField S seen f = .ok (f.rust, .none) := by
  simp only [fieldOk, hs, Bool.and_eq_true, Bool.not_true, Bool.false_or, Bool.or_eq_true, beq_iff_eq] at hok
  obtain ⟨_, hopt, hd⟩ := hok
  unfold assembleField
  rw [hfind]
  cases hty : f.ty with
  | opt t =>
    rcases hd with hd | hd
    · simp [hd, defaultOf]
    · cases hdf : f.dflt <;> simp [isOpt, hd, defaultOf]
  | _ => simp [hty, isOpt] at hopt

theorem assemble_present (S : Schema) (w : Ty → Val → Bool) (seen : List (String × Val)) (fds : List Field) (vs : List (String × Val))
    (hseen : ∀ n ∈ fds.map (·.rust), seen.find? (·.1 == n) = (presentPairs fds vs).find? (·.1 == n))
    (hnd : (fds.map (·.rust)).Nodup) (hw : wtFields w fds vs = true) (hok : ∀ f ∈ fds, fieldOk f = true) :
    R.mapM (assembleField S seen) fds = .ok vs := by
  fun_induction wtFields w fds vs with
  | case1 => rfl
  | case2 fd fds k v vs ih =>
    simp only [Bool.and_eq_true, beq_iff_eq] at hw
    obtain ⟨⟨rfl, _⟩, hwrest⟩ := hw
    obtain ⟨hnotin, hnd⟩ := List.nodup_cons.mp hnd
    -- `fd.rust` is looked up in what `fd` contributes, then in the rest, which does not hold it
    have hfind : seen.find? (·.1 == fd.rust) = (if fd.skipNone && v.isNone then none else some (fd.rust, v)) := by
      rw [hseen _ List.mem_cons_self, presentPairs, List.find?_append, find_presentPairs fds vs _ hnotin]
      split <;> simp
    have hfield : assembleField S seen fd = .ok (fd.rust, v) := by
      cases hskip : (fd.skipNone && v.isNone) with
      | true =>
        rw [Bool.and_eq_true, Val.isNone_iff] at hskip
        rw [hskip.2]
        exact assembleField_absent S seen fd (hok fd List.mem_cons_self) hskip.1 (by simpa [hskip.1, hskip.2, Val.isNone] using hfind)
      | false => simp [assembleField, hfind, hskip]
    have ih := ih (fun n hn => by
        have hne : fd.rust ≠ n := fun e => hnotin (by rwa [← e] at hn)
        rw [hseen n (List.mem_cons_of_mem _ hn), presentPairs, List.find?_append]
        split <;> simp [hne])
      hnd hwrest (fun f hf => hok f (List.mem_cons_of_mem _ hf))
    simp only [R.mapM, hfield, ih, R.map]
  | case3 => cases hw

theorem fieldFor_json (sd : StructDef) (hnd : (sd.fields.flatMap (fun f => f.json :: f.aliases)).Nodup) :
    ∀ fd ∈ sd.fields, sd.fieldFor fd.json = some fd := by
  intro fd hfd
  obtain ⟨as, bs, h⟩ := List.append_of_mem hfd
  rw [h, List.flatMap_append, List.flatMap_cons, List.nodup_append] at hnd
  rw [StructDef.fieldFor, List.find?_eq_some_iff_append]
  refine ⟨by simp, as, bs, h, fun g hg => ?_⟩
  -- a field before `fd` answering to `fd.json` would hold that name a second time
  cases hc : (g.json == fd.json || g.aliases.contains fd.json) with
  | false => rfl
  | true =>
    have hm : fd.json ∈ g.json :: g.aliases := by
      rw [List.mem_cons]
      simp only [Bool.or_eq_true, beq_iff_eq, List.contains_iff_mem] at hc
      exact hc.imp Eq.symm id
    exact absurd rfl (hnd.2.2 fd.json (List.mem_flatMap.mpr ⟨g, hg, hm⟩) fd.json (by simp))

theorem wt_pos {S : Schema} {kA : Int → Bool} {d : Nat} {ty : Ty} {v : Val} (h : wt S kA d ty v = true) : ∃ d', d = d' + 1 := by
  cases d with
  | zero => simp [wt] at h
  | succ d => exact ⟨d, rfl⟩

/-- the round trip for values of depth `d`.  `roundtrip` proves it for every `d` by strong induction; the lemmas about
members and lists come before it and take it for the smaller depths as their hypothesis `ih`. -/
def RoundTrips (S : Schema) (b64 : Bool) (kA : Int → Bool) (d : Nat) : Prop :=
  ∀ (ty : Ty) (v : Val) (j : Json) (F : Nat) (buffered : Bool),
    plainTy ty = true → wt S kA d ty v = true → serTy S b64 d ty v = some j → 3 * d ≤ F →
    parseTy S kA F buffered ty j = .ok v

/-- the step that `ignore_unknown_vec` and `ignore_unknown_opt_vec` share in `member_roundtrip`: a written list of
helper-free elements is read back by `lenientList` -/
theorem lenient_vec {S : Schema} {b64 : Bool} {kA : Int → Bool} {d : Nat} (ih : ∀ d' ≤ d, RoundTrips S b64 kA d') {t : Ty} {v : Val} {j : Json}
    (hpl : plainTy t = true) (hw : wt S kA (d + 1) (.vec t) v = true) (hs : serTy S b64 (d + 1) (.vec t) v = some j) (F : Nat) (hF : 3 * d ≤ F) :
    ∃ l js, v = .list l ∧ j = .arr js ∧ lenientList (parseTy S kA F true t) js = .ok l := by
  obtain ⟨l, js, rfl, rfl, hwl, hsl⟩ := wt_ser_cases hw hs
  exact ⟨l, js, rfl, rfl, (read_serList _ _ l js hsl fun x hx jx hjx => ih d (Nat.le_refl _) t x jx F true hpl (hwl x hx) hjx hF).2⟩

theorem member_roundtrip (S : Schema) (b64 : Bool) (kA : Int → Bool) (d : Nat) (ih : ∀ d' ≤ d, RoundTrips S b64 kA d')
    (fd : Field) (hok : fieldOk fd = true) (v : Val) (j : Json) (F : Nat) (buffered : Bool)
    (hw : wt S kA d fd.ty v = true) (hs : serTy S b64 d fd.ty v = some j) (hskip : (fd.skipNone && v.isNone) = false)
    (hF : 3 * d + 1 ≤ F) : parseMember S kA F buffered fd j = .ok v := by
  obtain ⟨F, rfl⟩ : ∃ F', F = F' + 1 := ⟨F - 1, by omega⟩
  obtain ⟨d, rfl⟩ := wt_pos hw
  simp only [fieldOk, Bool.and_eq_true] at hok
  obtain ⟨hwrap, _⟩ := hok
  cases hwr : fd.wrap <;> simp only [hwr] at hwrap
  case plain => simpa only [parseMember, hwr] using ih _ (Nat.le_refl _) fd.ty v j F buffered hwrap hw hs (by omega)
  case ignoreUnknown => simp only [parseMember, hwr, ih _ (Nat.le_refl _) fd.ty v j F buffered hwrap hw hs (by omega)]
  case maybeStringified =>
    simp only [Bool.and_eq_true, beq_iff_eq] at hwrap
    rw [hwrap.1] at hw hs
    rcases wt_ser_cases hw hs with ⟨rfl, -⟩ | ⟨x, rfl, -, hwx, hsx⟩
    · simp [hwrap.2, Val.isNone] at hskip
    · obtain ⟨d, rfl⟩ := wt_pos hwx
      obtain ⟨i, rfl, rfl, hi⟩ := wt_ser_cases hwx hsx
      have hr : WJson.i64Min ≤ i ∧ i ≤ WJson.i64Max := by simp only [WJson.i64Min, WJson.i64Max]; omega
      simp only [parseMember, hwr, WJson.u32Of, numOf_toString i 0 4294967295 hr hi]
  case i64ToIana =>
    rw [beq_iff_eq.mp hwrap] at hw hs
    obtain ⟨i, rfl, rfl, hk, hr⟩ := wt_ser_cases hw hs
    simp only [parseMember, hwr, WJson.i64Of, numOf_toString i _ _ hr hr, hk, if_true]
  case ignoreUnknownOptVec =>
    obtain ⟨hpl, hsk⟩ := Bool.and_eq_true_iff.mp hwrap
    split at hpl
    · rename_i t hty
      rw [hty] at hw hs
      rcases wt_ser_cases hw hs with ⟨rfl, -⟩ | ⟨x, rfl, -, hwx, hsx⟩
      · simp [hsk, Val.isNone] at hskip
      · obtain ⟨d, rfl⟩ := wt_pos hwx
        obtain ⟨l, js, rfl, rfl, hl⟩ := lenient_vec (fun d' h => ih d' (by omega)) hpl hwx hsx F (by omega)
        simp only [parseMember, hwr, hty, elemTy, hl, R.map]
    · cases hpl
  case ignoreUnknownVec =>
    split at hwrap
    · rename_i t hty
      rw [hty] at hw hs
      obtain ⟨l, js, rfl, rfl, hl⟩ := lenient_vec (fun d' h => ih d' (by omega)) hwrap hw hs F (by omega)
      simp only [parseMember, hwr, hty, elemTy, hl, R.map]
    · cases hwrap

/-- **Round trip**: for a schema meeting `SchemaOk`, every value of a helper-free member type, written by the
model of the serialiser, is read back by the model of the derived parser as the same value — reading from the
text as well as from a buffered list element. -/
theorem roundtrip (S : Schema) (b64 : Bool) (kA : Int → Bool) (hS : SchemaOk S = true) : ∀ d, RoundTrips S b64 kA d := by
  intro d
  induction d using Nat.strongRecOn with
  | _ d ih =>
    intro ty v j F buffered hpl hw hs hF
    obtain ⟨d, rfl⟩ := wt_pos hw
    obtain ⟨F, rfl⟩ : ∃ F', F = F' + 1 := ⟨F - 1, by omega⟩
    have ih : ∀ d' ≤ d, RoundTrips S b64 kA d' := fun d' hd' => ih d' (by omega)
    have h := wt_ser_cases hw hs
    cases ty with
    | bytes => obtain ⟨b, rfl, rfl⟩ := h; simp only [parseTy, bytesOf_serBytes]
    | str => obtain ⟨s, rfl, rfl⟩ := h; simp only [parseTy]
    | bool => obtain ⟨b, rfl, rfl⟩ := h; simp only [parseTy]
    | i64 => obtain ⟨i, rfl, rfl, hr⟩ := h; simp only [parseTy, WJson.ofToken_toString i hr, hr, and_self, if_true]
    | enum n => obtain ⟨s, e, rfl, rfl, he, hv⟩ := h; simp only [parseTy, he, Option.bind_some, hv]
    | opt t =>
      simp only [plainTy, Bool.and_eq_true] at hpl
      rcases h with ⟨rfl, rfl⟩ | ⟨x, rfl, -, hwx, hsx⟩
      · simp only [parseTy]
      · obtain ⟨d, rfl⟩ := wt_pos hwx
        have hx := ih _ (Nat.le_refl _) t x j F buffered hpl.2 hwx hsx (by omega)
        rw [parseTy_opt _ _ _ _ _ (fun e => parseTy_null S kA F buffered x hpl.1 (e ▸ hx)), hx]
        rfl
    | vec t =>
      obtain ⟨l, js, rfl, rfl, hwl, hsl⟩ := h
      have hel := (read_serList _ (parseTy S kA F buffered t) l js hsl
        fun x hx jx hjx => ih d (Nat.le_refl _) t x jx F buffered hpl (hwl x hx) hjx (by omega)).1
      simp only [parseTy, hel, R.map]
    | struct n =>
      obtain ⟨fs, sd, js, rfl, rfl, hsd, hwf, hsf⟩ := h
      have hsok := List.all_eq_true.mp hS sd (List.mem_of_find?_eq_some hsd)
      simp only [structOk, Bool.and_eq_true, decide_eq_true_eq, List.all_eq_true] at hsok
      obtain ⟨⟨hfok, hndr⟩, hndj⟩ := hsok
      obtain ⟨F, rfl⟩ : ∃ F', F = F' + 1 := ⟨F - 1, by omega⟩
      have hml := memberList_serFields sd (serTy S b64 d) (wt S kA d) (parseMember S kA F buffered) (fieldFor_json sd hndj)
        (fun fd hfd v j hwv hsv hsk => member_roundtrip S b64 kA d ih fd (hfok fd hfd) v j F buffered hwv hsv hsk (by omega))
        sd.fields fs js [] (fun _ h => h) hndr (fun _ _ => rfl) hwf hsf
      have hasm := assemble_present S (wt S kA d) (presentPairs sd.fields fs) sd.fields fs (fun _ _ => rfl) hndr hwf hfok
      have hname : sd.name = n := by simpa using List.find?_some hsd
      simp only [parseTy, parseStruct, hsd, hml, List.nil_append, assemble, hasm, R.map, hname]
    | u32 | alg | mapStr t => simp [plainTy] at hpl

end PasskeyVerif.Serde
