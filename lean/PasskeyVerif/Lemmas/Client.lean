/- The client model as a wrapper around the authenticator: the RP-ID check and the conversion of the extension
input, the one CTAP request, `make_credential` / `get_assertion`, and the reply made of their answer. -/
import PasskeyVerif.Lemmas.Auth
import PasskeyVerif.Model.Client
namespace PasskeyVerif.Client
open PasskeyVerif.Auth
open PasskeyVerif.AuthData (Bytes AuthData)

/-- the request `Client::register` hands to `make_credential`; `rk` is what `map_rk` makes of the reported capability -/
def ctapMakeReq (rk : Bool) (req : RegisterReq) (ostr : String) (mode : ClientDataMode) (rp : Psl.Str)
    (ext : Option MakeExtIn) : MakeReq :=
  { cdh := clientDataHash (clientDataJson "webauthn.create" req.challenge ostr mode) mode, rpId := rp.map UInt8.ofNat,
    userId := req.userId, algs := if req.algs.isEmpty then [-7, -257] else req.algs, excludeList := req.exclude,
    ext := ext, rk := rk, up := true, uv := (req.selection.map (·.userVerification)) != some .discouraged,
    pinAuth := false }

/-- the request `Client::authenticate` hands to `get_assertion` -/
def ctapGetReq (req : AuthReq) (ostr : String) (mode : ClientDataMode) (rp : Psl.Str) (ext : Option GetExtIn) : GetReq :=
  { rpId := rp.map UInt8.ofNat, cdh := clientDataHash (clientDataJson "webauthn.get" req.challenge ostr mode) mode,
    allowList := req.allow, ext := ext, rk := false, up := true, uv := req.userVerification != .discouraged,
    pinAuth := false }

/-- `discoverable`: what the store says of the new credential, reported as credProps when asked for -/
def registerResp (req : RegisterReq) (ostr : String) (mode : ClientDataMode) (dr : Draws) (discoverable : Bool)
    (ad : Bytes) (prf : Option PrfMakeOut) : RegisterResp :=
  { id := Base64.encodeUrl dr.credId, rawId := dr.credId,
    clientDataJson := clientDataJson "webauthn.create" req.challenge ostr mode, authenticatorData := ad,
    publicKey := publicKeyDer dr.key, publicKeyAlgorithm := -7, attestationObject := attestationObject ad,
    credProps := if ((zipContents req.ext).bind (·.credProps)) == some true then some discoverable else none,
    prf := prf }

def authResp (req : AuthReq) (ostr : String) (mode : ClientDataMode) (r : GetResp) (ad : Bytes) : AuthResp :=
  { id := Base64.encodeUrl r.credId, rawId := r.credId,
    clientDataJson := clientDataJson "webauthn.get" req.challenge ostr mode, authenticatorData := ad,
    signed := r.signed, userHandle := r.userHandle, prf := r.unsignedPrf }

/-- what `Client::register` makes of the authenticator's answer; after a success it asks the store once more -/
def registerReply (req : RegisterReq) (ostr : String) (mode : ClientDataMode) (dr : Draws) (rk : Bool)
    (out : Outcome MakeResp) : ClientOutcome RegisterResp :=
  match out.result with
  | .error e => ⟨.error (.authenticatorError e), out.store, .info :: out.trace⟩
  | .ok r =>
    match r.authData.toVec with
    | none => ⟨.error (.authenticatorError eInvalidCredential), out.store, .info :: out.trace⟩
    | some ad =>
      ⟨.ok (registerResp req ostr mode dr (out.store.info.1.isDiscoverable rk) ad r.unsignedPrf),
       out.store.tick, .info :: out.trace ++ [.info]⟩

def authReply (req : AuthReq) (ostr : String) (mode : ClientDataMode) (out : Outcome GetResp) : ClientOutcome AuthResp :=
  ⟨match out.result with
   | .error e => .error (statusToWeb e)
   | .ok r =>
     match r.authData.toVec with
     | none => .error (.authenticatorError eInvalidCredential)
     | some ad => .ok (authResp req ostr mode r ad),
   out.store, .info :: out.trace⟩

/-- zipping keeps the `credProps` member: an object it empties has none -/
theorem zipContents_credProps (ext : Option ExtIn) : (zipContents ext).bind (·.credProps) = ext.bind (·.credProps) := by
  unfold zipContents
  cases ext with
  | none => rfl
  | some e =>
    cases hcp : e.credProps with
    | none => dsimp only; split <;> simp [hcp]
    | some b => simp [hcp]

variable {v : RpId.Verifier} {cfg : Cfg} {u : UvCfg} {s : Store} {dr : Draws} {origin : RpId.Origin} {ostr : String}
  {mode : ClientDataMode}

theorem register_eq {req : RegisterReq} :
    register v cfg u s dr origin ostr req mode =
      match RpId.assertDomain v origin req.rpId with
      | .error e => ⟨.error (.rp e), (getInfo cfg u s).2, [.info]⟩
      | .ok rp =>
        match registrationPrfInput (zipContents req.ext) (getInfo cfg u s).1.1 false with
        | .error e => ⟨.error e, (getInfo cfg u s).2, [.info]⟩
        | .ok ext =>
          registerReply req ostr mode dr (mapRk req.selection (getInfo cfg u s).1.2.1)
            (makeCredential cfg u (getInfo cfg u s).2 dr
              (ctapMakeReq (mapRk req.selection (getInfo cfg u s).1.2.1) req ostr mode rp ext)) := by
  unfold register registerReply registerResp
  cases RpId.assertDomain v origin req.rpId with
  | error e => rfl
  | ok rp =>
    dsimp only
    cases registrationPrfInput (zipContents req.ext) (getInfo cfg u s).1.1 false <;> rfl

theorem authenticate_eq {req : AuthReq} :
    authenticate v cfg u s origin ostr req mode =
      match RpId.assertDomain v origin req.rpId with
      | .error e => ⟨.error (.rp e), (getInfo cfg u s).2, [.info]⟩
      | .ok rp =>
        match authPrfInput req.allow req.ext (getInfo cfg u s).1.1 with
        | .error e => ⟨.error e, (getInfo cfg u s).2, [.info]⟩
        | .ok ext => authReply req ostr mode (getAssertion cfg u (getInfo cfg u s).2 (ctapGetReq req ostr mode rp ext)) := by
  unfold authenticate authReply authResp ctapGetReq
  cases RpId.assertDomain v origin req.rpId with
  | error e => rfl
  | ok rp =>
    dsimp only
    cases authPrfInput req.allow req.ext (getInfo cfg u s).1.1 with
    | error e => rfl
    | ok ext =>
      dsimp only
      generalize getAssertion cfg u (getInfo cfg u s).2 _ = out
      cases out.result with
      | error e => rfl
      | ok r => dsimp only; cases r.authData.toVec <;> rfl

/-- the result of the reply alone (`rfl` through the outcome would compare the stores first) -/
theorem registerReply_result {req : RegisterReq} {rk : Bool} {out : Outcome MakeResp} :
    (registerReply req ostr mode dr rk out).result =
      match out.result with
      | .error e => .error (.authenticatorError e)
      | .ok r =>
        match r.authData.toVec with
        | none => .error (.authenticatorError eInvalidCredential)
        | some ad => .ok (registerResp req ostr mode dr (out.store.info.1.isDiscoverable rk) ad r.unsignedPrf) := by
  unfold registerReply
  split
  · rfl
  · split <;> rfl

theorem register_ok {req : RegisterReq} {resp : RegisterResp}
    (h : (register v cfg u s dr origin ostr req mode).result = .ok resp) :
    ∃ rp ext out r ad, RpId.assertDomain v origin req.rpId = .ok rp
      ∧ registrationPrfInput (zipContents req.ext) (getInfo cfg u s).1.1 false = .ok ext
      ∧ out = makeCredential cfg u (getInfo cfg u s).2 dr
          (ctapMakeReq (mapRk req.selection (getInfo cfg u s).1.2.1) req ostr mode rp ext)
      ∧ out.result = .ok r ∧ r.authData.toVec = some ad
      ∧ resp = registerResp req ostr mode dr (out.store.info.1.isDiscoverable (mapRk req.selection (getInfo cfg u s).1.2.1))
          ad r.unsignedPrf
      ∧ register v cfg u s dr origin ostr req mode = ⟨.ok resp, out.store.tick, .info :: out.trace ++ [.info]⟩ := by
  rw [register_eq] at h ⊢
  split at h
  · cases h
  · rename_i rp hrp
    split at h
    · cases h
    · rename_i ext hext
      unfold registerReply at h ⊢
      split at h
      · cases h
      · rename_i r hr
        split at h
        · cases h
        · rename_i ad had
          cases h
          exact ⟨rp, ext, _, r, ad, hrp, hext, rfl, hr, had, rfl, rfl⟩

theorem authenticate_ok {req : AuthReq} {resp : AuthResp}
    (h : (authenticate v cfg u s origin ostr req mode).result = .ok resp) :
    ∃ rp ext r ad, RpId.assertDomain v origin req.rpId = .ok rp
      ∧ authPrfInput req.allow req.ext (getInfo cfg u s).1.1 = .ok ext
      ∧ (getAssertion cfg u (getInfo cfg u s).2 (ctapGetReq req ostr mode rp ext)).result = .ok r
      ∧ r.authData.toVec = some ad ∧ resp = authResp req ostr mode r ad := by
  rw [authenticate_eq] at h
  split at h
  · cases h
  · rename_i rp hrp
    split at h
    · cases h
    · rename_i ext hext
      unfold authReply at h
      dsimp only at h
      split at h
      · cases h
      · rename_i r hr
        split at h
        · cases h
        · rename_i ad had
          cases h
          exact ⟨rp, ext, r, ad, hrp, hext, hr, had, rfl⟩

theorem authenticate_error {req : AuthReq} {rp : Psl.Str} {ext : Option GetExtIn} {e : Nat}
    (hrp : RpId.assertDomain v origin req.rpId = .ok rp)
    (hext : authPrfInput req.allow req.ext (getInfo cfg u s).1.1 = .ok ext)
    (hga : (getAssertion cfg u (getInfo cfg u s).2 (ctapGetReq req ostr mode rp ext)).result = .error e) :
    (authenticate v cfg u s origin ostr req mode).result = .error (statusToWeb e) := by
  rw [authenticate_eq]
  simp only [hrp, hext]
  unfold authReply
  rw [hga]

/-- that status is mapped to credential-not-found, and the client's own error is another -/
theorem authReply_ne_noCredentials (req : AuthReq) (ostr : String) (mode : ClientDataMode) (out : Outcome GetResp) :
    (authReply req ostr mode out).result ≠ .error (.authenticatorError eNoCredentials) := by
  unfold authReply
  dsimp only
  intro h
  cases hr : out.result with
  | error e =>
    -- `statusToWeb` sends that status to credential-not-found and keeps any other
    rw [hr] at h
    have h' : statusToWeb e = .authenticatorError eNoCredentials := Except.error.inj h
    unfold statusToWeb at h'
    by_cases he : e = eNoCredentials
    · rw [if_pos he] at h'; cases h'
    · rw [if_neg he] at h'; exact he (WebErr.authenticatorError.inj h')
  | ok r =>
    rw [hr] at h
    dsimp only at h
    cases hv : r.authData.toVec with
    | none =>
      -- the client's own error carries another status
      rw [hv] at h
      exact absurd (WebErr.authenticatorError.inj (Except.error.inj h)) (by decide)
    | some ad => rw [hv] at h; cases h
end PasskeyVerif.Client
