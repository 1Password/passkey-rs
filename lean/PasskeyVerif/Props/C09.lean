/-
C09 — PRF results are the specified HMAC, per credential, and gated on verification.
Property theorems about the models of passkey-client/src/extensions/prf.rs and
passkey-authenticator/src/authenticator/extensions/hmac_secret.rs.  SHA-256 and HMAC are the functions
of Base/Sha256.lean (the Spec recomputes every observed PRF output with them).
-/
import PasskeyVerif.Lemmas.Client
import PasskeyVerif.Spec.Client
namespace PasskeyVerif.C09
open PasskeyVerif PasskeyVerif.Auth PasskeyVerif.Auth.Spec PasskeyVerif.Client PasskeyVerif.Spec.Client
open PasskeyVerif.AuthData (Bytes AuthData)

/-- stated with the specification's `badLengths` and `saltsOf`: the two theorems below are its readings -/
theorem convertEval_eq (v : PrfVals) (shouldHash : Bool) :
    convertEval v shouldHash =
      if badLengths (!shouldHash) v then .error .validationError else .ok (saltsOf (!shouldHash) v) := by
  unfold convertEval badLengths saltsOf saltOf makeSalt prfSaltPrefix prfPrefix
  cases shouldHash with
  | true => simp
  | false =>
    cases hs : v.second with
    | none => by_cases h1 : v.first.length = 32 <;> simp [h1]
    | some s => by_cases h1 : v.first.length = 32 <;> by_cases h2 : s.length = 32 <;> simp [h1, h2]

/-- **The salt**: hashed inputs become SHA-256("WebAuthn PRF" ‖ 0x00 ‖ input) — the client's prefix is
the statement's — and pre-hashed inputs of 32 bytes are passed through unchanged. -/
theorem C09_salt (v : PrfVals) :
    convertEval v true = .ok (saltsOf false v)
    ∧ (v.first.length = 32 → (∀ s, v.second = some s → s.length = 32) → convertEval v false = .ok (saltsOf true v)) := by
  refine ⟨by rw [convertEval_eq]; rfl, fun h1 h2 => ?_⟩
  rw [convertEval_eq, if_neg]
  · rfl
  · cases hs : v.second with
    | none => simp [badLengths, h1, hs]
    | some s => simp [badLengths, h1, hs, h2 s hs]

/-- pre-hashed inputs that are not 32 bytes are a validation error -/
theorem C09_prehashed_length (v : PrfVals)
    (h : v.first.length ≠ 32 ∨ ∃ s, v.second = some s ∧ s.length ≠ 32) : convertEval v false = .error .validationError := by
  rw [convertEval_eq, if_pos]
  rcases h with h | ⟨s, hs, hl⟩
  · simp [badLengths, h]
  · simp [badLengths, hs, hl]

/-- **Every PRF result is the HMAC** of its salt under one stored secret: the verification-gated one iff
`uv`, otherwise the non-gated one — and without a non-gated secret an unverified evaluation is an error. -/
theorem C09_result_is_hmac (creds : HmacSecret) (salts : PrfValues) (h : HmacCfg) (uv : Bool) :
    (match secretFor creds uv with
     | some k => ∃ out, calculateHmacSecret creds salts h uv = .ok out ∧ prfMatches k salts out = true
         ∧ out.first = Sha256.hmac k salts.first
     | none => calculateHmacSecret creds salts h uv = .error eUserVerificationBlocked) := by
  rw [calculateHmacSecret_eq]
  cases secretFor creds uv with
  | none => rfl
  | some k =>
    refine ⟨hmacOutputs k salts h, rfl, prfMatches_hmacOutputs k salts h, ?_⟩
    -- not `rfl`: the unifier unfolds `Sha256.hmac` before it reduces the projection
    dsimp only [hmacOutputs]

/-- **Per-credential inputs take precedence**: the salts used are those listed under the used
credential's id; only when it is not listed, the default ones. -/
theorem C09_select (cred : Bytes) (i : PrfIn) :
    selectSalts cred i = saltsFor cred i
    ∧ (∀ l v, i.evalByCred = some l → l.find? (fun e => e.1 == cred) = some (cred, v) → selectSalts cred i = some v)
    ∧ ((∀ l, i.evalByCred = some l → l.find? (fun e => e.1 == cred) = none) → selectSalts cred i = i.eval) := by
  refine ⟨rfl, ?_, ?_⟩
  · intro l v hl hf
    unfold selectSalts; simp [hl, hf]
  · intro hnone
    unfold selectSalts
    cases he : i.evalByCred with
    | none => simp
    | some l => simp [hnone l he]

/-- **Registration reports "enabled" exactly when secrets were stored**, and an authenticator without
the capability produces no PRF output and stores no secret. -/
theorem C09_enabled_iff_stored (cfg : Cfg) (dr : Draws) (request : Option MakeExtIn) (uv : Bool)
    (out : Option PrfMakeOut) (stored : Option HmacSecret)
    (h : makeExtensions cfg dr request uv = .ok (out, stored)) :
    (∀ o, out = some o → o.enabled = stored.isSome) ∧ (cfg.hmac = none → out = none ∧ stored = none) := by
  refine ⟨fun o ho => ?_, fun hn => ?_⟩
  · subst ho
    obtain ⟨_, _, _, _, hen, _⟩ := makeExtensions_some h
    exact hen
  · rw [makeExtensions_no_capability dr request uv hn] at h
    cases h
    exact ⟨rfl, rfl⟩

/-- **Creation-time results** are HMACs under a permitted secret: the gated one only if verification was
requested (and therefore performed), else the non-gated one. -/
theorem C09_creation_results (cfg : Cfg) (dr : Draws) (request : Option MakeExtIn) (uv : Bool)
    (o : PrfMakeOut) (res : PrfValues) (stored : Option HmacSecret)
    (h : makeExtensions cfg dr request uv = .ok (some o, stored)) (hr : o.results = some res) :
    ∃ creds salts k, stored = some creds ∧ (request.bind (·.prf)).bind (·.eval) = some salts
      ∧ secretFor creds uv = some k ∧ prfMatches k salts res = true := by
  obtain ⟨input, hc, hin, _, _, hres⟩ := makeExtensions_some h
  obtain ⟨creds, salts, k, hst, hev, hk, rfl⟩ := hres res hr
  exact ⟨creds, salts, k, hst, by rw [hin]; exact hev, hk, prfMatches_hmacOutputs k salts hc⟩

/-- **Assertion-time results**: a PRF output of `get_extensions` is the HMAC of the salts selected for the
credential used, under the secret that `uv` selects among that credential's stored secrets. -/
theorem C09_assertion_results (cfg : Cfg) (p : Passkey) (request : Option GetExtIn) (uv : Bool) (res : PrfValues)
    (h : getExtensions cfg p request uv = .ok (some res)) :
    ∃ creds input salts k, p.hmac = some creds ∧ request.bind (·.prf) = some input ∧ saltsFor p.credId input = some salts
      ∧ secretFor creds uv = some k ∧ prfMatches k salts res = true := by
  obtain ⟨input, hc, creds, salts, k, hin, -, hcr, hs, hk, rfl⟩ := getExtensions_some h
  exact ⟨creds, input, salts, k, hcr, hin, hs, hk, prfMatches_hmacOutputs k salts hc⟩

/-- **The assertion passes the verification actually performed** (the UV flag of the ceremony) to the
extension: the PRF output of a successful assertion is `get_extensions` at `flags & UV ≠ 0`. -/
theorem C09_assertion_uses_performed_uv (cfg : Cfg) (s : Store) (req : GetReq) (flags : UInt8) (cred : Passkey) (r : GetResp)
    (h : (signPhase cfg s req flags cred).result = .ok r) :
    getExtensions cfg cred req.ext (flags &&& PasskeyVerif.Generated.Flags.UV != 0) = .ok r.unsignedPrf := by
  obtain ⟨prf, ad, hprf, -, rfl⟩ := signPhase_ok h
  exact hprf

/-- **Malformed requests are rejected before the authenticator is invoked** (registration): when the PRF
input conversion fails, `register` fails with that error having only asked for the capabilities. -/
theorem C09_register_rejects_before_invoking (v : RpId.Verifier) (cfg : Cfg) (u : UvCfg) (s : Store) (dr : Draws)
    (origin : RpId.Origin) (ostr : String) (req : RegisterReq) (mode : ClientDataMode) (rp : Psl.Str) (e : WebErr)
    (hrp : RpId.assertDomain v origin req.rpId = .ok rp)
    (hbad : registrationPrfInput (zipContents req.ext) (getInfo cfg u s).1.1 false = .error e) :
    (register v cfg u s dr origin ostr req mode).result = .error e
      ∧ (register v cfg u s dr origin ostr req mode).trace = [Event.info]
      ∧ (register v cfg u s dr origin ostr req mode).store.items = s.items := by
  rw [register_eq]
  simp only [hrp, hbad]
  exact ⟨trivial, trivial, rfl⟩

/-- **Malformed requests are rejected before the authenticator is invoked** (authentication): when the PRF
input conversion fails, `authenticate` fails with that error having only asked for the capabilities. -/
theorem C09_authenticate_rejects_before_invoking (v : RpId.Verifier) (cfg : Cfg) (u : UvCfg) (s : Store)
    (origin : RpId.Origin) (ostr : String) (req : AuthReq) (mode : ClientDataMode) (rp : Psl.Str) (e : WebErr)
    (hrp : RpId.assertDomain v origin req.rpId = .ok rp)
    (hbad : authPrfInput req.allow req.ext (getInfo cfg u s).1.1 = .error e) :
    (authenticate v cfg u s origin ostr req mode).result = .error e
      ∧ (authenticate v cfg u s origin ostr req mode).trace = [Event.info]
      ∧ (authenticate v cfg u s origin ostr req mode).store.items = s.items := by
  rw [authenticate_eq]
  simp only [hrp, hbad]
  exact ⟨trivial, trivial, rfl⟩

/-- the malformed shapes at registration: per-credential inputs are "not supported" whenever a PRF input is given -/
theorem C09_registration_eval_by_credential (p : PrfInputs) (a b c : Bool) (h : p.evalByCred.isSome = true) :
    makeCtapExtension (some p) a b c = .error .notSupported := by
  unfold makeCtapExtension; simp [h]

/-- per-credential inputs without an allow list are "not supported" when the capability is present -/
theorem C09_authentication_needs_allow_list (allow : Option (List Bytes)) (p : PrfInputs) (l : List (String × PrfVals)) (sh : Bool)
    (hl : p.evalByCred = some l) (hne : l ≠ []) (ha : allow = none ∨ allow = some []) :
    getCtapExtension allow (some p) true sh = .error .notSupported := by
  unfold getCtapExtension
  have : l.isEmpty = false := by
    cases l with
    | nil => exact absurd rfl hne
    | cons _ _ => rfl
  rcases ha with ha | ha
  · simp [hl, ha, this]
  · simp [hl, ha, this]

end PasskeyVerif.C09
