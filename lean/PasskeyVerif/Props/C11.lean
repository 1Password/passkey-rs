/-
C11 — Discoverability follows request and store capability and is reported truthfully.
Property theorems, and the table lemma `isDiscoverable_discOf` two of them share.  `webauthnRk`, `discoverableUnder`, `refusesResidentKeys` are the statement's
tables (Spec); the theorems are about the client model (`Client.register`, `Client.authenticate`) and the
authenticator model (`makeCredential`, `getAssertion`), for every store content, capability, request,
user-validation behaviour and injected store fault.
-/
import PasskeyVerif.Lemmas.Client
import PasskeyVerif.Lemmas.AuthStore
import PasskeyVerif.Spec.Client
namespace PasskeyVerif.C11
open PasskeyVerif PasskeyVerif.Auth PasskeyVerif.Auth.Spec PasskeyVerif.Client PasskeyVerif.Spec.Client
open PasskeyVerif.AuthData (Bytes AuthData)

/-- **The mapping**: the client's `map_rk` is the WebAuthn table, for every selection and capability. -/
theorem C11_rk_mapping (sel : Option Selection) (capable : Bool) : mapRk sel capable = webauthnRk sel capable := by
  cases sel with
  | none => rfl
  | some s => cases s with
    | mk rk rrk uv => cases rk with
      | none => rfl
      | some k => cases k <;> rfl

/-- the table, row by row -/
theorem C11_rk_rows (rrk : Bool) (uv : UvReq) (capable : Bool) :
    mapRk (some ⟨some .required, rrk, uv⟩) capable = true
    ∧ mapRk (some ⟨some .preferred, rrk, uv⟩) capable = capable
    ∧ mapRk (some ⟨some .discouraged, rrk, uv⟩) capable = false
    ∧ mapRk (some ⟨none, rrk, uv⟩) capable = rrk
    ∧ mapRk none capable = false := ⟨rfl, rfl, rfl, rfl, rfl⟩

/-- the capability reported by `get_info` is "resident keys are not refused" -/
theorem C11_capability_reported (cfg : Cfg) (u : UvCfg) (s : Store) :
    (getInfo cfg u s).1.2.1 = !refusesResidentKeys s.kind := by
  unfold getInfo refusesResidentKeys Store.info
  cases discOf s.kind <;> rfl

/-- `is_passkey_discoverable` of the store's capability is the statement's table -/
theorem isDiscoverable_discOf (k : StoreKind) (rk : Bool) : (discOf k).isDiscoverable rk = discoverableUnder k rk := by
  unfold discoverableUnder
  cases discOf k <;> rfl

/-- **CTAP registration**: whatever `make_credential` hands to the store carries the user handle exactly
when the credential is discoverable under the store's capability (full: as requested; non-discoverable
only: never; forced: always), together with the request's own rk option; and nothing is handed to a
store that holds only non-discoverable credentials when a resident key was asked for. -/
theorem C11_make_stores_handle_iff_discoverable (cfg : Cfg) (u : UvCfg) (s : Store) (dr : Draws) (req : MakeReq)
    (p : Passkey) (uid : Bytes) (rk up uv : Bool) (f : Option Nat)
    (h : Event.save p uid rk up uv f ∈ (makeCredential cfg u s dr req).trace) :
    p.userHandle = (if discoverableUnder s.kind req.rk then some req.userId else none)
      ∧ uid = req.userId ∧ rk = req.rk ∧ ¬(req.rk = true ∧ refusesResidentKeys s.kind = true) := by
  rcases makeCredential_cases cfg u s dr req with q | ⟨_, _, _, _, hs⟩
  · cases q.trace ▸ (mem_effects _ _).mpr ⟨h, rfl⟩
  · -- a save event is an effect, and the only effect of a registration is the save of the passkey it built
    cases eq_of_mem_of_effects h rfl hs.effects
    exact ⟨congrArg (if · then some req.userId else none) (isDiscoverable_discOf s.kind req.rk), rfl, rfl,
      by simpa using hs.passed.residentKey⟩

/-- **A required resident key is refused** by a store that holds only non-discoverable credentials:
no success, nothing saved. -/
theorem C11_make_refused (cfg : Cfg) (u : UvCfg) (s : Store) (dr : Draws) (req : MakeReq)
    (hrk : req.rk = true) (hs : refusesResidentKeys s.kind = true) :
    (∀ r, (makeCredential cfg u s dr req).result ≠ .ok r)
      ∧ ∀ p uid rk up uv f, Event.save p uid rk up uv f ∉ (makeCredential cfg u s dr req).trace := by
  refine ⟨fun r hr => ?_, fun p uid rk up uv f hm => ?_⟩
  · obtain ⟨_, _, _, hp, -⟩ := makeCredential_ok hr
    have := hp.passed.residentKey
    rw [hrk, hs] at this; cases this
  · exact (C11_make_stores_handle_iff_discoverable _ _ _ _ _ _ _ _ _ _ _ hm).2.2.2 ⟨hrk, hs⟩

/-- **The refusal's status**: once the earlier steps pass (consent, exclude list, algorithm), a resident key asked of a
store that holds only non-discoverable credentials is refused with CTAP2_ERR_UNSUPPORTED_OPTION. -/
theorem C11_make_refused_code (cfg : Cfg) (s : Store) (dr : Draws) (req : MakeReq) (flags : UInt8) (alg : Int)
    (hrk : req.rk = true) (hs : refusesResidentKeys s.kind = true)
    (hex : (excludePhase s req).1 = false) (halg : chooseAlgorithm cfg req.algs = .ok alg) :
    (makeAfterConsent cfg s dr req flags).result = .error eUnsupportedOption := by
  have hc : makeChecks cfg s dr req = .error eUnsupportedOption := by
    unfold makeChecks
    rw [hex, halg, hrk, hs]; rfl
  exact (makeAfterConsent_of_stop flags hc).2

/-- **Client registration, end to end**: when `register` succeeds, the store was handed exactly one kind of
credential — with the rk option of the WebAuthn mapping (capability = the store does not refuse resident
keys), holding the user handle exactly when discoverable under the store's capability — and the credProps
output, when requested, says exactly whether it is discoverable; when not requested it is absent. -/
theorem C11_register (v : RpId.Verifier) (cfg : Cfg) (u : UvCfg) (s : Store) (dr : Draws) (origin : RpId.Origin)
    (ostr : String) (req : RegisterReq) (mode : ClientDataMode) (resp : RegisterResp)
    (h : (register v cfg u s dr origin ostr req mode).result = .ok resp) :
    let rkWant := webauthnRk req.selection (!refusesResidentKeys s.kind)
    ¬(rkWant = true ∧ refusesResidentKeys s.kind = true)
    ∧ (∃ p up uv, Event.save p req.userId rkWant up uv none ∈ (register v cfg u s dr origin ostr req mode).trace)
    ∧ (∀ p uid rk up uv f, Event.save p uid rk up uv f ∈ (register v cfg u s dr origin ostr req mode).trace →
        rk = rkWant ∧ uid = req.userId
        ∧ p.userHandle = (if discoverableUnder s.kind rkWant then some req.userId else none))
    ∧ resp.credProps = (if (req.ext.bind (·.credProps)) = some true then some (discoverableUnder s.kind rkWant) else none) := by
  intro rkWant
  obtain ⟨rp, ext, out, r, ad, -, -, hout, hmk, -, rfl, ho⟩ := register_ok h
  -- the option sent is the WebAuthn mapping under the capability reported
  have hrkw : mapRk req.selection (getInfo cfg u s).1.2.1 = rkWant := by rw [C11_capability_reported, C11_rk_mapping]
  rw [hrkw] at hout ⊢
  subst hout
  rw [ho]
  have hsaves := fun p uid rk up uv f =>
    C11_make_stores_handle_iff_discoverable cfg u (getInfo cfg u s).2 dr (ctapMakeReq rkWant req ostr mode rp ext) p uid rk up uv f
  -- a successful `make_credential` did save: its one effect is in its trace
  obtain ⟨_, _, stored, hs, -⟩ := makeCredential_ok hmk
  have hp0 := ((mem_effects _ _).mp (hs.effects ▸ List.mem_singleton.mpr rfl)).1
  refine ⟨(hsaves _ _ _ _ _ _ hp0).2.2.2, ⟨_, _, _, List.mem_append_left _ (List.mem_cons_of_mem _ hp0)⟩, ?_, ?_⟩
  · intro p uid rk up uv f hm
    simp only [List.mem_append, List.mem_cons, List.not_mem_nil, or_false, reduceCtorEq, false_or] at hm
    have := hsaves _ _ _ _ _ _ hm
    exact ⟨this.2.2.1, this.2.1, this.1⟩
  · show (if ((zipContents req.ext).bind (·.credProps)) == some true then _ else _) = _
    rw [show ∀ st : Store, st.info.1 = discOf st.kind from fun _ => rfl, isDiscoverable_discOf, makeCredential_kind,
      zipContents_credProps]
    simp only [beq_iff_eq]
    rfl

/-- **A required resident key is refused through the client too**: with a store that holds only
non-discoverable credentials, a request whose mapping asks for a resident key never registers. -/
theorem C11_register_refused (v : RpId.Verifier) (cfg : Cfg) (u : UvCfg) (s : Store) (dr : Draws) (origin : RpId.Origin)
    (ostr : String) (req : RegisterReq) (mode : ClientDataMode)
    (hs : refusesResidentKeys s.kind = true) (hrk : webauthnRk req.selection false = true) :
    ∀ resp, (register v cfg u s dr origin ostr req mode).result ≠ .ok resp := by
  intro resp h
  have := (C11_register v cfg u s dr origin ostr req mode resp h).1
  rw [hs] at this
  exact this ⟨hrk, rfl⟩

/-- **CTAP assertion**: the user handle returned is exactly the one the credential used stores (none when
it stores none) — the credential used being the first one of the store's lookup. -/
theorem C11_assert_returns_stored_handle (cfg : Cfg) (u : UvCfg) (s : Store) (req : GetReq) (r : GetResp)
    (h : (getAssertion cfg u s req).result = .ok r) :
    ∃ p rest, (s.find (allowIds req) req.rpId).1 = .ok (p :: rest) ∧ r.credId = p.credId
      ∧ r.userHandle = p.userHandle := by
  obtain ⟨p, rest, _, hf, -, ha, -⟩ := getAssertion_ok h
  exact ⟨p, rest, hf, ha.credId, ha.userHandle⟩

/-- **Client assertion**: `authenticate` passes that on unchanged — the response's user handle is the one
stored with the credential whose id it carries. -/
theorem C11_authenticate_returns_stored_handle (v : RpId.Verifier) (cfg : Cfg) (u : UvCfg) (s : Store)
    (origin : RpId.Origin) (ostr : String) (req : AuthReq) (mode : ClientDataMode) (resp : AuthResp)
    (h : (authenticate v cfg u s origin ostr req mode).result = .ok resp) :
    ∃ (q : GetReq) (p : Passkey) (rest : List Passkey), q.allowList = req.allow
      ∧ ((getInfo cfg u s).2.find (allowIds q) q.rpId).1 = .ok (p :: rest)
      ∧ resp.rawId = p.credId ∧ resp.userHandle = p.userHandle := by
  obtain ⟨rp, ext, r, ad, -, -, hga, -, rfl⟩ := authenticate_ok h
  obtain ⟨p, rest, h1, h2, h3⟩ := C11_assert_returns_stored_handle _ _ _ _ _ hga
  exact ⟨_, p, rest, rfl, h1, h2, h3⟩

/-- **No stored handle comes from an assertion**: every credential in the store after an assertion has the id and
the user handle of a credential that was there before — an assertion (including its counter write-back) stores no
new credential and gives none a handle it did not have (records may go: the map-like and single-slot stores rewrite
by id), so a handle found stored after any history of assertions was stored when its credential was created. -/
theorem C11_assertion_keeps_stored_handles (cfg : Cfg) (u : UvCfg) (s : Store) (req : GetReq) :
    ∀ q ∈ (getAssertion cfg u s req).store.items, ∃ r ∈ s.items, r.credId = q.credId ∧ r.userHandle = q.userHandle := by
  intro q hq
  rcases getAssertion_effects cfg u s req _ rfl with ⟨_, h⟩ | ⟨p, rest, c, l, hf, _, _, hu, hl⟩ | ⟨_, _, _, _, h, _⟩
  · rw [h] at hq; exact ⟨q, hq, rfl, rfl⟩
  · -- the one thing written is the located credential, a stored one, with another counter
    rw [hl] at hq
    rcases updateRaw_mem hu q hq with rfl | h
    · exact ⟨p, find_mem hf p List.mem_cons_self, rfl, rfl⟩
    · exact ⟨q, h, rfl, rfl⟩
  · rw [h] at hq; exact ⟨q, hq, rfl, rfl⟩

/-! Non-vacuity: the hypotheses are met by concrete ceremonies. -/

example : refusesResidentKeys (.reference .onlyNonDiscoverable) = true
    ∧ webauthnRk (some ⟨some .required, false, .preferred⟩) false = true := ⟨rfl, rfl⟩

example : discoverableUnder (.reference .full) true = true ∧ discoverableUnder (.reference .full) false = false
    ∧ discoverableUnder (.reference .onlyNonDiscoverable) true = false
    ∧ discoverableUnder (.reference .forcedDiscoverable) false = true ∧ discoverableUnder .memoryMap false = true :=
  ⟨rfl, rfl, rfl, rfl, rfl⟩

end PasskeyVerif.C11
