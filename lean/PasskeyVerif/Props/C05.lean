/-
C05 — Credentials are used only for their own RP and as the allow / exclude lists say.
Property theorems only. The authenticator half holds for every store keeping the documented lookup
contract; the contract is proved for the reference store and the (repaired) single-slot store and
refuted, with a concrete witness, for the in-memory map (a known finding, see known_findings.json).
-/
import PasskeyVerif.Lemmas.StoreContract
namespace PasskeyVerif.C05
open PasskeyVerif.Auth PasskeyVerif.Auth.Spec
open PasskeyVerif.AuthData (Bytes)

/-- **The reference store keeps the contract.** -/
theorem C05_reference_store_contract (d : Disc) (items : List Passkey) (ids : Option (List Bytes)) (rp : Bytes) :
    findRaw (.reference d) items ids rp = contract items ids rp := contract_of_found _ _ _ _ rfl

/-- **The single-slot store (`Option<Passkey>`, as repaired) keeps the contract**, holding nothing or one passkey. -/
theorem C05_single_slot_contract (slot : Option Passkey) (ids : Option (List Bytes)) (rp : Bytes) :
    findRaw .singleSlot slot.toList ids rp = contract slot.toList ids rp := by
  apply contract_of_found
  unfold foundRaw contractFound
  cases slot with
  | none =>
    cases ids with
    | none => rfl
    | some l =>
      have : l.findSome? (fun _ => (none : Option Passkey)) = none := List.findSome?_eq_none_iff.mpr fun _ _ => rfl
      simp [Option.toList, this]
  | some p =>
    cases ids with
    | none => cases hrp : (p.rpId == rp) <;> simp [Option.toList, Option.filter, hrp]
    | some l =>
      simp only [Option.toList, List.head?_cons]
      rw [findSome_slot]
      cases hc : (p.rpId == rp && l.any (· == p.credId)) <;> simp [hc]

/-- **The in-memory map does not keep the contract** (known finding): it returns a credential bound to
another RP when its id is listed, and finds nothing without an id list although the RP has a credential. -/
theorem C05_memory_map_breaks_contract :
    foundRaw .memoryMap [⟨[1], [97], none, none, ⟨[], [], []⟩, none⟩] (some [[1]]) [98]
        ≠ contractFound [⟨[1], [97], none, none, ⟨[], [], []⟩, none⟩] (some [[1]]) [98]
      ∧ foundRaw .memoryMap [⟨[1], [97], none, none, ⟨[], [], []⟩, none⟩] none [97]
        ≠ contractFound [⟨[1], [97], none, none, ⟨[], [], []⟩, none⟩] none [97] := by
  decide

/-- **Assertion uses the lookup** — for every store, configuration and request: a successful assertion
is made with the first credential returned by a lookup for the request's RP ID and its non-empty allow
list (an empty list is treated as absent). -/
theorem C05_assert_uses_lookup (cfg : Cfg) (u : UvCfg) (s : Store) (req : GetReq) (sig : Bytes) :
    c05_assert_uses_lookup req (obsOfGet (getAssertion cfg u s req) sig) = true := by
  cases hr : (getAssertion cfg u s req).result with
  | error e => rw [obsOfGet_error hr]; rfl
  | ok r =>
    obtain ⟨p, rest, flags, -, -, ha, -, ho⟩ := getAssertion_ok hr
    have hid := ha.credId
    unfold c05_assert_uses_lookup obsOfGet
    simp only [hr]
    cases r.authData.toVec with
    | none => rfl
    | some bs =>
      -- the first event is the lookup, for the ids `allowIds` makes of the allow list, and `p` is its first result
      have hA : (match req.allowList with
          | some l => if l.isEmpty = true then (allowIds req).isNone else allowIds req == some l
          | none => (allowIds req).isNone) = true := by
        unfold allowIds
        cases req.allowList with
        | none => rfl
        | some l => cases l <;> simp
      rw [ho]
      simp only [Outcome.prepend_trace, List.cons_append, List.map_cons, List.any_cons, evObsOf, beq_self_eq_true,
        Bool.true_and, hid]
      rw [Bool.or_eq_true]
      exact Or.inl hA

/-- **With a store keeping the contract** (no fault injected at the lookup): the credential a successful
assertion is made with is a stored credential bound to the request's RP ID and, when a non-empty allow
list is supplied, named in it; it is the first such credential the store lists. -/
theorem C05_assert_bound (cfg : Cfg) (u : UvCfg) (s : Store) (req : GetReq) (r : GetResp)
    (hcontract : ∀ ids rp, findRaw s.kind s.items ids rp = contract s.items ids rp)
    (hnofault : s.fault? = none)
    (h : (getAssertion cfg u s req).result = .ok r) :
    ∃ p rest, contract s.items (allowIds req) req.rpId = .ok (p :: rest) ∧ r.credId = p.credId ∧ p ∈ s.items
      ∧ p.rpId = req.rpId ∧ (∀ l, req.allowList = some l → l ≠ [] → r.credId ∈ l) := by
  obtain ⟨p, rest, _, hf, -, ha, -⟩ := getAssertion_ok h
  have hid := ha.credId
  rw [find_of_contract s hcontract hnofault] at hf
  have hp : p ∈ contractFound s.items (allowIds req) req.rpId := by
    rw [← ((contract_ok _ _ _ _).mp hf).1]; exact List.mem_cons_self
  obtain ⟨hin, hrp, hids⟩ := (mem_contractFound _ _ _ _).mp hp
  refine ⟨p, rest, hf, hid, hin, hrp, ?_⟩
  intro l hl hne
  rw [hid]
  refine hids l ?_
  unfold allowIds
  rw [hl]
  cases l with
  | nil => exact absurd rfl hne
  | cons a as => rfl

/-- **Exclusion, exactly when** (store keeping the contract, no injected faults): after consent,
registration fails with credential-excluded iff a non-empty exclude list names a stored credential bound
to the same RP; in that case nothing is saved and the store content is unchanged. -/
theorem C05_excluded_iff (cfg : Cfg) (s : Store) (dr : Draws) (req : MakeReq) (flags : UInt8)
    (hcontract : ∀ ids rp, findRaw s.kind s.items ids rp = contract s.items ids rp)
    (hnf : s.faults = []) :
    ((makeAfterConsent cfg s dr req flags).result = .error eCredentialExcluded
      ↔ ∃ l, req.excludeList = some l ∧ l ≠ [] ∧ ∃ p ∈ s.items, p.rpId = req.rpId ∧ p.credId ∈ l)
    ∧ ((makeAfterConsent cfg s dr req flags).result = .error eCredentialExcluded →
        (makeAfterConsent cfg s dr req flags).store.items = s.items
        ∧ ∀ e ∈ (makeAfterConsent cfg s dr req flags).trace, isEffect (evObsOf e) = false) := by
  have hex := (makeChecks_excluded cfg s dr req).trans
    (excludePhase_of_contract s req hcontract (by unfold Store.fault?; rw [hnf]; rfl))
  rw [makeAfterConsent_eq]
  cases hc : makeChecks cfg s dr req with
  | error e =>
    -- stopped at a check: the result is that check's status, and nothing was written
    refine ⟨⟨fun h => hex.mp (Except.error.inj h ▸ hc), fun h => ?_⟩,
      fun _ => ⟨(stopAt_same cfg s req).items,
        fun e he => (effects_eq_nil_iff _).mp (stopAt_quiet cfg s req) _ (List.mem_map_of_mem he)⟩⟩
    rw [Except.error.inj (hc.symm.trans (hex.mpr h))]
  | ok x =>
    -- the checks passed and no fault is injected: the save is accepted, the result is a success
    have hsave : (beforeFinish s req).1.tick.fault? = none := by
      unfold Store.fault? Store.tick; rw [(beforeFinish_same s req).faults, hnf]; rfl
    dsimp only
    rw [finishMake_eq, hsave]
    exact ⟨⟨fun h => (by cases h), fun h => by rw [hex.mpr h] at hc; cases hc⟩, fun h => (by cases h)⟩

end PasskeyVerif.C05
