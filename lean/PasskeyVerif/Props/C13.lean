/-
C13 — CTAP2 messages use the specified integer keys and round-trip through CBOR; status bytes.
Property theorems, with the tables they range over (`tableOf`, `allSchemas`, `allValues`).  The member tables,
status-code tables, ranges and conversion orders are regenerated from /repo/passkey-types/src/ctap2/*.rs on
every run (translate/ctap.py); the model of the
`serde_workaround!` macro is Model/CtapMsg.lean and of error.rs Model/Status.lean (both tied to the code
by the correspondence stream).
-/
import PasskeyVerif.Lemmas.CtapMsg
import PasskeyVerif.Lemmas.Cbor
import PasskeyVerif.Lemmas.Status
import PasskeyVerif.Spec.Ctap
import PasskeyVerif.Lemmas.Client
namespace PasskeyVerif.C13
open PasskeyVerif.CtapMsg PasskeyVerif.Generated PasskeyVerif.Cbor

def tableOf (s : List Ctap.Field) : Ctap.Spec.Table := s.map (fun f => (camel f.name, f.key, !f.hasDefault))

/-- **Keys**: every message's members carry the integers the CTAP specification assigns, the required
members are exactly those without a default, and optional members are exactly those omitted when absent
(`options` of the two requests is always emitted). -/
theorem C13_keys :
    tableOf Ctap.makeCredentialRequest = Ctap.Spec.makeCredentialRequest
    ∧ tableOf Ctap.makeCredentialResponse = Ctap.Spec.makeCredentialResponse
    ∧ tableOf Ctap.getAssertionRequest = Ctap.Spec.getAssertionRequest
    ∧ tableOf Ctap.getAssertionResponse = Ctap.Spec.getAssertionResponse
    ∧ tableOf Ctap.getInfoResponse = Ctap.Spec.getInfoResponse
    ∧ tableOf Ctap.hmacSecretHmacGetSecretInput = Ctap.Spec.hmacSecretInput := by decide +kernel

def allSchemas : List (List Ctap.Field) :=
  [Ctap.makeCredentialRequest, Ctap.makeCredentialResponse, Ctap.getAssertionRequest,
   Ctap.getAssertionResponse, Ctap.getInfoResponse, Ctap.hmacSecretHmacGetSecretInput]

/-- every regenerated schema has strictly ascending keys, all at most 255, and every omit-when-absent
member has a default -/
theorem C13_schemas_ok : ∀ s ∈ allSchemas, SchemaOk s := by
  intro s hs
  simp only [allSchemas, List.mem_cons, List.not_mem_nil, or_false] at hs
  rcases hs with rfl | rfl | rfl | rfl | rfl | rfl <;> exact ⟨by decide, by decide, by decide⟩

/-- members omitted when absent are exactly the optional ones, except the always-emitted `options` -/
theorem C13_optional_members_omitted : ∀ s ∈ allSchemas, ∀ f ∈ s,
    f.skipIfNone = (f.hasDefault && f.name != "options" || (f.name == "options" && s == Ctap.getInfoResponse)) := by
  decide

/-- **Ascending, present members only**: the emitted map's keys are the keys of the present members in
strictly ascending order. -/
theorem C13_emitted_keys (s : List Ctap.Field) (hs : Ascending s) (vals : Vals) :
    keysOf (entriesOf s vals) = ((s.zip vals).filter (fun p => p.2.isSome)).map (fun p => p.1.key)
      ∧ (keysOf (entriesOf s vals)).Pairwise (· < ·) := by
  refine ⟨keys_of_entries s vals, ?_⟩
  rw [keys_of_entries]
  induction s generalizing vals with
  | nil => cases vals <;> simp
  | cons f rest ih =>
    cases vals with
    | nil => simp
    | cons v vs =>
      have hlt := ascending_head_lt f rest hs
      have hrec := ih (ascending_tail f rest hs) vs
      simp only [List.zip_cons_cons, List.filter_cons]
      split
      · simp only [List.map_cons, List.pairwise_cons]
        refine ⟨?_, hrec⟩
        intro k hk
        rw [List.mem_map] at hk
        obtain ⟨p, hp, rfl⟩ := hk
        exact hlt p.1 (List.of_mem_zip (List.mem_filter.mp hp).1).1
      · exact hrec

/-- **Round trip**: for every schema with the checked properties (in particular each of the six
messages), deserialising the serialisation of any well-formed value yields that value. -/
theorem C13_roundtrip (s : List Ctap.Field) (hs : s ∈ allSchemas) (validVal : Nat → Item → Bool)
    (dflt : Nat → Option Item) (vals : Vals) (hv : ValsOk s dflt validVal vals) :
    deserialize s validVal dflt (serialize s vals) = .ok vals :=
  deserialize_serialize s (C13_schemas_ok s hs) validVal dflt vals hv

/-- **Round trip at the level of bytes**: the CBOR encoding (RFC 8949, definite lengths, shortest heads) of the map a
message serialises to, followed by anything, is read back by the CBOR reader as that map and the rest, and
deserialising the map yields the message — for every well-formed value of each of the six messages whose
members are encodable (lengths and integers below 2^64). -/
theorem C13_roundtrip_bytes (s : List Ctap.Field) (hs : s ∈ allSchemas) (validVal : Nat → Item → Bool)
    (dflt : Nat → Option Item) (vals : Vals) (hv : ValsOk s dflt validVal vals)
    (hwf : (serialize s vals).WF = true) (rest : Cbor.Bytes) :
    Cbor.decode1 (Cbor.encode (serialize s vals) ++ rest) = some (serialize s vals, rest)
      ∧ deserialize s validVal dflt (serialize s vals) = .ok vals :=
  ⟨Cbor.decode1_encode _ hwf rest, C13_roundtrip s hs validVal dflt vals hv⟩

/-- **Unknown keys are ignored**: an entry whose key is an integer 0..255 that is not a member key, or a
text string naming no member, changes nothing wherever it is injected in front of the remaining entries. -/
theorem C13_unknown_keys_ignored (s : List Ctap.Field) (validVal : Nat → Item → Bool) (k v : Item)
    (rest : List (Item × Item)) (acc : Acc)
    (hk : (∃ n, k = .uint n ∧ n ≤ 255 ∧ ∀ f ∈ s, f.key ≠ n)
        ∨ (∃ t, k = .text t ∧ ∀ f ∈ s, (camel f.name).toUTF8.toList ≠ t)) :
    collect s validVal ((k, v) :: rest) acc = collect s validVal rest acc := by
  suffices h : identOf s k = some .unknown by simp [collect, h]
  rcases hk with ⟨n, rfl, hn, hnot⟩ | ⟨t, rfl, hnot⟩
  · unfold identOf
    dsimp only
    rw [if_pos hn]
    have : s.any (fun f => f.key == n) = false := by
      rw [List.any_eq_false]; intro f hf; simpa using hnot f hf
    rw [this]; rfl
  · unfold identOf
    dsimp only
    have : s.find? (fun f => (camel f.name).toUTF8.toList == t) = none := by
      rw [List.find?_eq_none]; intro f hf; simpa using hnot f hf
    rw [this]

/-- **Duplicated member**: a second entry for a member already seen is an error. -/
theorem C13_duplicate_is_error (s : List Ctap.Field) (validVal : Nat → Item → Bool) (f : Ctap.Field) (hf : f ∈ s)
    (hs : f.key ≤ 255) (v : Item) (rest : List (Item × Item)) (acc : Acc) (hseen : (acc f.key).isSome = true) :
    collect s validVal ((.uint f.key, v) :: rest) acc = .error (.duplicate f.key) := by
  simp [collect, identOf_field s f hf hs, hseen]

/-- **Missing required member** is an error. -/
theorem C13_missing_required_is_error (dflt : Nat → Option Item) (s : List Ctap.Field) (acc : Acc) (f : Ctap.Field)
    (hf : f ∈ s) (hreq : f.hasDefault = false) (habs : acc f.key = none) : ∃ e, finish dflt s acc = .error e := by
  induction s with
  | nil => cases hf
  | cons g rest ih =>
    rw [List.mem_cons] at hf
    simp only [finish]
    rcases hf with rfl | hf
    · simp only [habs, hreq, Bool.false_eq_true, if_false]
      cases finish dflt rest acc <;> exact ⟨_, rfl⟩
    · obtain ⟨e, he⟩ := ih hf
      rw [he]
      split
      · rename_i h1 h2; cases h2
      · exact ⟨_, rfl⟩
      · exact ⟨_, rfl⟩

/-- **Defaults**: absent option members are `rk = false`, `up = true`, `uv = false`; an absent options map
equals the default one. -/
theorem C13_option_defaults :
    optionsOf (.map []) = some Ctap.Spec.defaultOptions ∧ optionsOf defaultOptionsItem = some Ctap.Spec.defaultOptions := by
  decide

/-- **Status bytes**: every byte converts to exactly one status value (the conversion is a function and
never reaches the `unwrap` failure) and back to the same byte. -/
theorem C13_status_roundtrip : ∀ b : Fin 256, Status.ofByte b.val ≠ .crash ∧ Status.toByte (Status.ofByte b.val) = b.val := by
  decide +kernel

/-- every status value: the known codes of both tables and every byte of the three ranges -/
def allValues : List Status.Status :=
  (List.range Ctap.ctap2Error.length).map .ctap2Known ++ (List.range Ctap.u2FError.length).map .ctap1
    ++ ((List.range 256).filter (Status.inRanges Ctap.unknownSpecErrorRanges)).map .ctap2Other
    ++ ((List.range 256).filter (Status.inRanges Ctap.extensionErrorRanges)).map .ctap2Extension
    ++ ((List.range 256).filter (Status.inRanges Ctap.vendorErrorRanges)).map .ctap2Vendor

/-- **Exactly one status value per byte**: converting any status value to its byte and back yields the
same value — the error families do not overlap — with the one documented exception that the U2F
success code shares 0x00 with the CTAP2 one. -/
theorem C13_status_values_distinct :
    ∀ v ∈ allValues, Status.toByte v = 0 ∨ Status.ofByte (Status.toByte v) = v := by
  decide +kernel

/-- **Client mapping**: "no credentials" (0x2E) is reported as credential-not-found, every other status
byte is passed through unchanged. -/
theorem C13_client_status_map : ∀ b : Fin 256,
    Status.toWebauthn (Status.ofByte b.val)
      = if b.val = 0x2E then .credentialNotFound else .authenticatorError b.val := by
  intro b
  -- the value of a byte converts back to that byte, so the map sees the byte alone
  have hb := (C13_status_roundtrip b).2
  split
  · rename_i h
    rw [h]
    decide
  · rcases Status.toWebauthn_cases (Status.ofByte b.val) with ⟨_, h⟩ | h
    · rw [hb] at h; contradiction
    · rw [h, hb]

/-- **The mapping is what `Client::authenticate` applies**: an authentication whose RP-ID check and extension
processing pass and whose `getAssertion` fails with status `e` ends with exactly the mapped error:
credential-not-found for 0x2E, `AuthenticatorError(e)` unchanged for every other status. -/
theorem C13_authenticate_applies_map (v : RpId.Verifier) (cfg : Auth.Cfg) (u : Auth.UvCfg)
    (s : Auth.Store) (origin : RpId.Origin) (originStr : String) (req : Client.AuthReq)
    (mode : Client.ClientDataMode) (e : Nat) :
    ∀ rp ctapExt,
    RpId.assertDomain v origin req.rpId = .ok rp →
    Client.authPrfInput req.allow req.ext (Auth.getInfo cfg u s).1.1 = .ok ctapExt →
    (Auth.getAssertion cfg u (Auth.getInfo cfg u s).2
        { rpId := rp.map UInt8.ofNat,
          cdh := Client.clientDataHash (Client.clientDataJson "webauthn.get" req.challenge originStr mode) mode,
          allowList := req.allow, ext := ctapExt, rk := false, up := true,
          uv := req.userVerification != .discouraged, pinAuth := false }).result = .error e →
    (Client.authenticate v cfg u s origin originStr req mode).result
      = .error (if e = 0x2E then .credentialNotFound else .authenticatorError e) :=
  fun _ _ hrp hext hget => Client.authenticate_error hrp hext hget

/-- **An authentication that reaches the authenticator never ends with `AuthenticatorError(0x2E)`**, whatever the
authenticator answers. -/
theorem C13_authenticate_never_passes_no_credentials (v : RpId.Verifier) (cfg : Auth.Cfg)
    (u : Auth.UvCfg) (s : Auth.Store) (origin : RpId.Origin) (originStr : String)
    (req : Client.AuthReq) (mode : Client.ClientDataMode) :
    ∀ rp ctapExt,
    RpId.assertDomain v origin req.rpId = .ok rp →
    Client.authPrfInput req.allow req.ext (Auth.getInfo cfg u s).1.1 = .ok ctapExt →
    (Client.authenticate v cfg u s origin originStr req mode).result ≠ .error (.authenticatorError 0x2E) := by
  intro rp ctapExt hrp hext
  rw [Client.authenticate_eq]
  simp only [hrp, hext]
  exact Client.authReply_ne_noCredentials _ _ _ _

/-- **the status values the ceremony model raises are the regenerated ones**: every error constant of
Model/Authenticator.lean is the byte that ctap2/error.rs assigns to the variant of that name now -/
theorem C13_model_status_constants :
    Ctap.ctap2Error.lookup "InvalidOption" = some Auth.eInvalidOption
    ∧ Ctap.ctap2Error.lookup "UnsupportedOption" = some Auth.eUnsupportedOption
    ∧ Ctap.ctap2Error.lookup "OperationDenied" = some Auth.eOperationDenied
    ∧ Ctap.ctap2Error.lookup "CredentialExcluded" = some Auth.eCredentialExcluded
    ∧ Ctap.ctap2Error.lookup "UnsupportedAlgorithm" = some Auth.eUnsupportedAlgorithm
    ∧ Ctap.ctap2Error.lookup "NoCredentials" = some Auth.eNoCredentials
    ∧ Ctap.ctap2Error.lookup "PinAuthInvalid" = some Auth.ePinAuthInvalid
    ∧ Ctap.ctap2Error.lookup "UserVerificationBlocked" = some Auth.eUserVerificationBlocked
    ∧ Ctap.ctap2Error.lookup "InvalidCredential" = some Auth.eInvalidCredential
    ∧ Ctap.u2FError.lookup "InvalidParameter" = some Auth.eU2fInvalidParameter := by
  decide +kernel

/-! non-vacuity: a concrete getAssertion request value is well formed and round-trips -/
example : ValsOk Ctap.getAssertionRequest (fun k => if k = 5 then some defaultOptionsItem else none) (fun _ _ => true)
    [some (.text [97]), some (.bytes [1, 2]), none, none, some defaultOptionsItem, none, none] :=
  ⟨rfl, by
    intro f hf
    simp [Ctap.getAssertionRequest] at hf
    rcases hf with rfl | rfl | rfl | rfl <;> simp, by intros; rfl⟩

end PasskeyVerif.C13
