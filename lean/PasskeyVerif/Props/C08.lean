/-
C08 — Signature counters strictly increase and equal what the store holds.
Property theorems, with `history` and `counters` which two of them speak of, about the model of make_credential /
get_assertion (as repaired: the increment saturates at the 32-bit maximum).  Counters are natural numbers bounded by 2^32-1 where it matters.
-/
import PasskeyVerif.Lemmas.AuthStore
namespace PasskeyVerif.C08
open PasskeyVerif.Auth PasskeyVerif.Auth.Spec
open PasskeyVerif.AuthData (Bytes AuthData)

/-- **The increment**: below the 32-bit maximum exactly one more; at the maximum it stays — never smaller,
never above the maximum. -/
theorem C08_bump (c : Nat) (h : c ≤ u32Max) :
    (c < u32Max → bump c = c + 1) ∧ c ≤ bump c ∧ bump c ≤ u32Max ∧ (c = u32Max → bump c = c) := by
  unfold bump u32Max at *
  omega

/-- **Registration reports zero**: a credential created with a counter carries `Some(0)` in the response
and in the passkey handed to the store; without a counter, none (encoded as zero). -/
theorem C08_register_zero (cfg : Cfg) (u : UvCfg) (s : Store) (dr : Draws) (req : MakeReq) (r : MakeResp)
    (h : (makeCredential cfg u s dr req).result = .ok r) :
    r.authData.counter = (if cfg.counterOn then some 0 else none)
      ∧ ∀ p uid rk up uv f, Event.save p uid rk up uv f ∈ (makeCredential cfg u s dr req).trace →
          p.counter = (if cfg.counterOn then some 0 else none) := by
  obtain ⟨flags, prf, stored, hs, hr⟩ := makeCredential_ok h
  refine ⟨by rw [hr]; rfl, fun p uid rk up uv f hmem => ?_⟩
  -- a save event is an effect, and the only effect of a registration is the save of the passkey it built
  cases eq_of_mem_of_effects hmem rfl hs.effects
  rfl

/-- the encoded counter field is the counter (an absent counter reads as zero) -/
theorem C08_reported_field (a : AuthData) (bs : Bytes) (hh : a.rpIdHash.length = 32)
    (hc : a.counter.getD 0 ≤ u32Max) (h : a.toVec = some bs) : counterField bs = a.counter.getD 0 := by
  obtain ⟨tail, rfl⟩ := AuthData.toVec_header h
  unfold counterField
  simp only [AuthData.be32, List.cons_append, List.nil_append]
  rw [show (33 : Nat) = 32 + 1 from rfl, show (34 : Nat) = 32 + 2 from rfl, show (35 : Nat) = 32 + 3 from rfl,
    show (36 : Nat) = 32 + 4 from rfl]
  rw [getD_append_len _ _ 32 1 0 hh, getD_append_len _ _ 32 2 0 hh, getD_append_len _ _ 32 3 0 hh,
    getD_append_len _ _ 32 4 0 hh]
  have := AuthData.be32_roundtrip (a.counter.getD 0) (by unfold u32Max at hc; omega)
  simpa [AuthData.ofBe32] using this

/-- **One assertion**: the credential used is the first one the lookup returned; if it has a counter `c`
the response carries `bump c`, the store was asked to hold exactly that value and accepted it; if it has
none, the response carries none (zero on the wire) and the credential is not rewritten. -/
theorem C08_assert_step (cfg : Cfg) (u : UvCfg) (s : Store) (req : GetReq) (r : GetResp)
    (h : (getAssertion cfg u s req).result = .ok r) :
    ∃ p rest, (s.find (allowIds req) req.rpId).1 = .ok (p :: rest) ∧ r.credId = p.credId ∧
      (match p.counter with
       | some c => r.authData.counter = some (bump c)
           ∧ Event.update p.credId (some (bump c)) none ∈ (getAssertion cfg u s req).trace
       | none => r.authData.counter = none
           ∧ ∀ id ctr f, Event.update id ctr f ∉ (getAssertion cfg u s req).trace) := by
  obtain ⟨p, rest, flags, hf, -, ha, hr, ho⟩ := getAssertion_ok h
  refine ⟨p, rest, hf, ha.credId, ?_⟩
  rw [ho, Outcome.prepend_trace]
  rcases getAfterConsent_cases cfg s.tick req flags p with ⟨hn, e⟩ | ⟨c, f, _, e⟩ | ⟨c, l, hc, _, e⟩
  · -- no counter: the trace is the lookup and the user validation, neither an update
    simp only [hn]
    refine ⟨by rw [ha.authData, hn]; rfl, fun id ctr f hmem => ?_⟩
    rw [e] at hmem
    simp at hmem
  · rw [e] at hr; cases hr
  · simp only [hc]
    refine ⟨by rw [ha.authData, hc]; rfl, ?_⟩
    rw [e]
    exact List.mem_append_right _ List.mem_cons_self

/-- a history of assertions on one store, each under its own user-validation behaviour -/
def history (cfg : Cfg) (s : Store) : List (UvCfg × GetReq) → Store × List (Except Nat GetResp)
  | [] => (s, [])
  | (u, req) :: rest =>
    let o := getAssertion cfg u s req
    let r := history cfg o.store rest
    (r.1, o.result :: r.2)

/-- `c+1, c+2, …` with the saturating increment -/
def counters (c : Nat) : Nat → List Nat
  | 0 => []
  | n + 1 => bump c :: counters (bump c) n

/-- **Any history of successful assertions with one credential** (any requests, extensions, allow lists,
user-validation behaviours, as long as each succeeds) on a store holding just that credential, with counter `c`,
reports exactly `c+1, c+2, …, c+n` (saturating at 2^32−1) and ends with the credential stored with the
last reported value. -/
theorem C08_history (cfg : Cfg) (s : Store) (p : Passkey) (c : Nat) (h : List (UvCfg × GetReq))
    (hitems : s.items = [p]) (hc : p.counter = some c)
    (hall : ∀ r ∈ (history cfg s h).2, ∃ g, r = .ok g) :
    (history cfg s h).2.map (fun r => match r with | .ok g => g.authData.counter | .error _ => none)
        = (counters c h.length).map some
      ∧ ∃ c', (history cfg s h).1.items = [{ p with counter := some c' }]
          ∧ c' = (counters c h.length).getLast?.getD c := by
  induction h generalizing s p c with
  | nil =>
    refine ⟨rfl, c, ?_, rfl⟩
    show s.items = _
    rw [hitems, ← hc]
  | cons x rest ih =>
    obtain ⟨u, req⟩ := x
    simp only [history] at hall ⊢
    obtain ⟨g, hg⟩ := hall _ (List.mem_cons_self)
    obtain ⟨h1, h2⟩ := getAssertion_single cfg u s req p c g hitems hc hg
    obtain ⟨ih1, c', ih2, ih3⟩ := ih (getAssertion cfg u s req).store { p with counter := some (bump c) } (bump c) h2 rfl
      (fun r hr => hall r (List.mem_cons_of_mem _ hr))
    refine ⟨?_, c', ih2, ?_⟩
    · simp only [List.map_cons, List.length_cons, counters, hg, h1, ih1]
    · rw [ih3]
      simp only [List.length_cons, counters, List.getLast?_cons, Option.getD_some]

/-- below the maximum the reported counters are strictly increasing by one -/
theorem C08_counters_step (c n : Nat) (h : c + n ≤ u32Max) : counters c n = (List.range n).map (fun i => c + i + 1) := by
  induction n generalizing c with
  | zero => rfl
  | succ n ih =>
    have hb : bump c = c + 1 := by unfold bump; unfold u32Max at h; omega
    simp only [counters, hb]
    rw [ih (c + 1) (by omega), List.range_succ_eq_map]
    simp only [List.map_cons, List.map_map]
    congr 1
    apply List.map_congr_left
    intro i _
    simp only [Function.comp]; omega

end PasskeyVerif.C08
