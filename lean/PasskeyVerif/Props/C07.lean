/-
C07 — Failed or cancelled ceremonies leave the credential store consistent.
Property theorems only.  A ceremony's suspension points are its calls to the store and to user
validation, each an event of the model's trace; the store is assumed to perform each call atomically
(it either accepted the save / update or did not).  Cancellation after `j` suspension points leaves the
store reached by replaying the first `j` events (`applyEvents`, Model/AuthCancel.lean).
-/
import PasskeyVerif.Lemmas.AuthStore
import PasskeyVerif.Lemmas.U2f
namespace PasskeyVerif.C07
open PasskeyVerif.Auth PasskeyVerif.Auth.Spec
open PasskeyVerif.AuthData (Bytes AuthData)

/-- **A registration that returns an error leaves the store content as it was** — for every store kind,
content, request, user-validation behaviour and fault schedule. -/
theorem C07_make_error_store_unchanged (cfg : Cfg) (u : UvCfg) (s : Store) (dr : Draws) (req : MakeReq) (e : Nat)
    (h : (makeCredential cfg u s dr req).result = .error e) : (makeCredential cfg u s dr req).store.items = s.items := by
  rcases makeCredential_cases cfg u s dr req with q | ⟨_, _, _, f, hs⟩
  · exact q.same.items
  · cases f with
    | none => rw [hs.result] at h; cases h
    | some f => exact hs.items

/-- **A registration cancelled at any suspension point** leaves either exactly the store before or, in
addition, the one complete new credential — the passkey built from the request, never a partial or
altered record. -/
theorem C07_make_cancelled (cfg : Cfg) (u : UvCfg) (s : Store) (dr : Draws) (req : MakeReq) (j : Nat) :
    applyEvents s.kind s.items ((makeCredential cfg u s dr req).trace.take j) = s.items
    ∨ ∃ stored, applyEvents s.kind s.items ((makeCredential cfg u s dr req).trace.take j)
        = saveRaw s.kind s.items (newPasskey cfg (discOf s.kind) dr req stored) := by
  rcases makeCredential_cases cfg u s dr req with q | ⟨_, _, stored, f, hs⟩
  · exact .inl (applyEvents_take_of_quiet _ _ _ j q.trace)
  · have h1 := applyEvents_take_of_single s.kind s.items _ j _ hs.effects
    cases f with
    | none => exact h1.imp id (⟨stored, ·⟩)
    | some f => exact .inl (h1.elim id id) -- a refused save replays to the store before

/-- replaying the whole trace gives the store the ceremony ends with (so the cancellation model and the
completed ceremony agree at the last suspension point) -/
theorem C07_make_replay_complete (cfg : Cfg) (u : UvCfg) (s : Store) (dr : Draws) (req : MakeReq) :
    applyEvents s.kind s.items (makeCredential cfg u s dr req).trace = (makeCredential cfg u s dr req).store.items := by
  rw [applyEvents_effects]
  rcases makeCredential_cases cfg u s dr req with q | ⟨_, _, stored, f, hs⟩
  · rw [q.trace, q.same.items]; rfl
  · rw [hs.effects, hs.items]
    cases f <;> rfl

/-- **Success means the store accepted the new credential before the response existed**: the trace of a
successful registration contains the accepted save (and it is its only effect). -/
theorem C07_make_success_after_accepted_save (cfg : Cfg) (u : UvCfg) (s : Store) (dr : Draws) (req : MakeReq) (r : MakeResp)
    (h : (makeCredential cfg u s dr req).result = .ok r) :
    ∃ stored, effects (makeCredential cfg u s dr req).trace
        = [Event.save (newPasskey cfg (discOf s.kind) dr req stored) req.userId req.rk req.up req.uv none]
      ∧ (makeCredential cfg u s dr req).store.items = saveRaw s.kind s.items (newPasskey cfg (discOf s.kind) dr req stored) := by
  obtain ⟨_, _, stored, hs, -⟩ := makeCredential_ok h
  exact ⟨stored, hs.effects, hs.items⟩

/-- **A store error while saving is reported, never turned into success.** -/
theorem C07_make_store_error_reported (cfg : Cfg) (u : UvCfg) (s : Store) (dr : Draws) (req : MakeReq)
    (p : Passkey) (uid : Bytes) (rk up uv : Bool) (f : Nat)
    (h : Event.save p uid rk up uv (some f) ∈ (makeCredential cfg u s dr req).trace) :
    (makeCredential cfg u s dr req).result = .error f := by
  rcases makeCredential_cases cfg u s dr req with q | ⟨_, _, _, _, hs⟩
  · cases q.trace ▸ (mem_effects _ _).mpr ⟨h, rfl⟩
  · cases eq_of_mem_of_effects h rfl hs.effects
    exact hs.result

/-- **An authentication, failed, cancelled at any suspension point or successful**, leaves the store
unchanged except that the selected credential — the first one of the lookup — may have been rewritten
with its counter advanced by one (saturating at 2^32-1): nothing else is ever written. -/
theorem C07_get_prefix (cfg : Cfg) (u : UvCfg) (s : Store) (req : GetReq) (j : Nat) :
    applyEvents s.kind s.items ((getAssertion cfg u s req).trace.take j) = s.items
    ∨ ∃ p rest c, (s.find (allowIds req) req.rpId).1 = .ok (p :: rest) ∧ p.counter = some c
        ∧ applyEvents s.kind s.items ((getAssertion cfg u s req).trace.take j)
            = applyEvent s.kind s.items (Event.update p.credId (some (bump c)) none) := by
  rcases getAssertion_effects cfg u s req _ rfl with h1 | ⟨p, rest, c, l, h1, h2, h3, _, _⟩ | ⟨_, _, f, h3, _, _⟩
  · exact .inl (applyEvents_take_of_quiet _ _ _ j h1.1)
  · exact (applyEvents_take_of_single _ _ _ j _ h3).imp id (⟨p, rest, c, h1, h2, ·⟩)
  · -- a refused update replays to the store before
    exact .inl ((applyEvents_take_of_single _ _ _ j _ h3).elim id id)

/-- the store a completed authentication ends with: unchanged, or the store's own update of the selected
credential with the advanced counter -/
theorem C07_get_store_after (cfg : Cfg) (u : UvCfg) (s : Store) (req : GetReq) :
    (getAssertion cfg u s req).store.items = s.items
    ∨ ∃ p rest c l, (s.find (allowIds req) req.rpId).1 = .ok (p :: rest) ∧ p.counter = some c
        ∧ updateRaw s.kind s.items { p with counter := some (bump c) } = .ok l
        ∧ (getAssertion cfg u s req).store.items = l := by
  rcases getAssertion_effects cfg u s req _ rfl with h1 | ⟨p, rest, c, l, h1, h2, _, h4, h5⟩ | ⟨_, _, _, _, h4, _⟩
  · exact Or.inl h1.2
  · exact Or.inr ⟨p, rest, c, l, h1, h2, h4, h5⟩
  · exact Or.inl h4

/-- **A store error while updating is reported, never turned into success** — so an assertion is never
returned unless the store accepted its counter value (with `C08_assert_step`: the accepted value is the
one reported). -/
theorem C07_get_store_error_reported (cfg : Cfg) (u : UvCfg) (s : Store) (req : GetReq) (id : Bytes) (ctr : Option Nat) (f : Nat)
    (h : Event.update id ctr (some f) ∈ (getAssertion cfg u s req).trace) :
    (getAssertion cfg u s req).result = .error f := by
  rcases getAssertion_effects cfg u s req _ rfl with h1 | ⟨_, _, _, _, _, _, h3, _, _⟩ | ⟨_, _, _, h3, _, h5⟩
  · cases h1.1 ▸ (mem_effects _ _).mpr ⟨h, rfl⟩
  · cases eq_of_mem_of_effects h rfl h3
  · cases eq_of_mem_of_effects h rfl h3; exact h5

/-- a lookup error is never turned into success either -/
theorem C07_get_lookup_error (cfg : Cfg) (u : UvCfg) (s : Store) (req : GetReq) (e : Nat)
    (hf : (s.find (allowIds req) req.rpId).1 = .error e) : ∀ r, (getAssertion cfg u s req).result ≠ .ok r := by
  intro r h
  rcases getAssertion_cases cfg u s req with q | ⟨p, rest, _, h1, _⟩
  · exact q.not_ok r h
  · rw [hf] at h1; cases h1

/-- **U2F registration**: whatever status the store answers the save with (every code, 0x00 included), a
refused save is an error of the registration and the store holds what it held; a registration that
succeeds was accepted by the store. -/
theorem C07_u2f_register_store_error_reported (s : Store) (k : Key) (app chal handle : Bytes) :
    (∀ e, s.fault? = some e →
        (∃ err, (U2f.register s k app chal handle).1 = .error err)
          ∧ storeObs (U2f.register s k app chal handle).2.1 = storeObs s)
    ∧ (∀ r, (U2f.register s k app chal handle).1 = .ok r → s.fault? = none
          ∧ (U2f.register s k app chal handle).2.1.items = saveRaw s.kind s.items (U2f.u2fPasskey app handle k)) := by
  constructor
  · intro e he
    rw [U2f.register_eq, he]
    exact ⟨⟨_, rfl⟩, rfl⟩
  · intro r hr
    have hf := U2f.fault_of_register_ok hr
    exact ⟨hf, by rw [U2f.register_eq, hf]⟩

end PasskeyVerif.C07
