/-
C03 — Authentication returns a signature that verifies and is bound to the ceremony.
Property theorems only.  ECDSA itself is outside the model: the model yields *what is signed and with
which key* (`Signed`), the theorems bind that to the ceremony, and the Spec (`c03_authenticate`) verifies
every observed signature with the P-256 oracle over exactly that message and key.
-/
import PasskeyVerif.Lemmas.Client
import PasskeyVerif.Spec.Client
namespace PasskeyVerif.C03
open PasskeyVerif PasskeyVerif.Auth PasskeyVerif.Auth.Spec PasskeyVerif.Client PasskeyVerif.Spec.Client
open PasskeyVerif.AuthData (Bytes AuthData)

/-- **CTAP assertion**: the message signed is the encoding of the returned authenticator data followed by
the request's client data hash; the key is that of the first credential of the store's lookup for the
request's RP ID and allow list; the authenticator data is built for that RP ID and carries no attested
credential data. -/
theorem C03_assertion_signs (cfg : Cfg) (u : UvCfg) (s : Store) (req : GetReq) (r : GetResp)
    (h : (getAssertion cfg u s req).result = .ok r) :
    ∃ p rest ad ctr flags, (s.find (allowIds req) req.rpId).1 = .ok (p :: rest)
      ∧ r.credId = p.credId ∧ r.userHandle = p.userHandle ∧ r.signed.key = p.key
      ∧ r.authData.toVec = some ad ∧ r.signed.message = ad ++ req.cdh
      ∧ r.authData = (AuthData.new req.rpId ctr).setFlags flags ∧ r.authData.acd = none
      ∧ r.authData.rpIdHash = Sha256.sha256 req.rpId := by
  obtain ⟨p, rest, flags, hf, -, ha, -⟩ := getAssertion_ok h
  obtain ⟨ad, hvec, hmsg⟩ := ha.signed
  exact ⟨p, rest, ad, _, flags, hf, ha.credId, ha.userHandle, ha.key, hvec, hmsg, ha.authData,
    by rw [ha.authData]; rfl, by rw [ha.authData]; rfl⟩

/-- **No eligible credential**: when the lookup finds nothing and the user consents, the authenticator
answers CTAP2_ERR_NO_CREDENTIALS (or the store's own error) and produces no response to sign. -/
theorem C03_nothing_found (cfg : Cfg) (u : UvCfg) (s : Store) (req : GetReq) (e : Nat) (flags : UInt8) (ev : List Event)
    (hf : (s.find (allowIds req) req.rpId).1 = .error e) (hpin : req.pinAuth = false) (hrk : req.rk = false)
    (hc : checkUser u req.up req.uv none = (.ok flags, ev)) :
    (getAssertion cfg u s req).result = .error e := by
  unfold getAssertion
  simp only [hf, firstCred, shownOf, hpin, hrk, hc, Bool.false_eq_true, if_false]

/-- the stores never answer "found" with an empty list: an empty lookup is CTAP2_ERR_NO_CREDENTIALS -/
theorem C03_empty_lookup_is_no_credentials (s : Store) (ids : Option (List Bytes)) (rp : Bytes)
    (hnf : s.fault? = none) (hempty : foundRaw s.kind s.items ids rp = []) :
    (s.find ids rp).1 = .error eNoCredentials := by
  unfold Store.find findRaw
  simp [hnf, hempty]

/-- **The client response**: when `authenticate` succeeds —
* the effective RP ID `rp` was accepted by the RP-ID verifier (C01);
* the client data is the serialisation of type `webauthn.get`, the request's challenge and the caller's origin;
* id = base64url(raw id), raw id and user handle are those of the credential `p` the store's lookup for
  `rp` and the allow list lists first;
* what is signed is the returned authenticator data followed by the SHA-256 of the returned client data
  JSON (or the caller-supplied hash), with `p`'s key;
* the authenticator data begins with SHA-256(rp) and is the encoding of some value without attested credential
  data (a weak reading of the bytes alone; the CTAP-level `C03_assertion_signs` says which value). -/
theorem C03_authenticate (v : RpId.Verifier) (cfg : Cfg) (u : UvCfg) (s : Store) (origin : RpId.Origin) (ostr : String)
    (req : AuthReq) (mode : ClientDataMode) (resp : AuthResp)
    (h : (authenticate v cfg u s origin ostr req mode).result = .ok resp) :
    ∃ (rp : Psl.Str) (q : GetReq) (p : Passkey) (rest : List Passkey) (a : AuthData),
      RpId.assertDomain v origin req.rpId = .ok rp
      ∧ q.rpId = rp.map UInt8.ofNat ∧ q.allowList = req.allow
      ∧ resp.clientDataJson = clientDataJson "webauthn.get" req.challenge ostr mode
      ∧ ((getInfo cfg u s).2.find (allowIds q) q.rpId).1 = .ok (p :: rest)
      ∧ resp.rawId = p.credId ∧ resp.id = Base64.encodeUrl p.credId ∧ resp.userHandle = p.userHandle
      ∧ resp.signed.key = p.key
      ∧ resp.signed.message = resp.authenticatorData ++ clientDataHash resp.clientDataJson mode
      ∧ a.toVec = some resp.authenticatorData ∧ a.acd = none ∧ a.rpIdHash = Sha256.sha256 (rp.map UInt8.ofNat) := by
  obtain ⟨rp, ext, r, ad, hrp, -, hga, had, rfl⟩ := authenticate_ok h
  obtain ⟨p, rest, ad', ctr, flags, h1, h2, h3, h4, h5, h6, -, h8, h9⟩ := C03_assertion_signs _ _ _ _ _ hga
  cases had.symm.trans h5
  exact ⟨rp, _, p, rest, r.authData, hrp, rfl, rfl, rfl, h1, h2, congrArg Base64.encodeUrl h2, h3, h4, h6, had, h8, h9⟩

/-- **Credential not found**: the authenticator's CTAP2_ERR_NO_CREDENTIALS reaches the caller as the
credential-not-found error, every other status as an authenticator error; neither carries a signature. -/
theorem C03_not_found_mapping (e : Nat) :
    statusToWeb e = (if e = eNoCredentials then WebErr.credentialNotFound else WebErr.authenticatorError e) := rfl

/-- `authenticate` applies exactly the mapping `statusToWeb` to whatever status the authenticator answered: in
particular CTAP2_ERR_NO_CREDENTIALS becomes credential-not-found, and a failed ceremony returns no response. -/
theorem C03_authenticate_error (v : RpId.Verifier) (cfg : Cfg) (u : UvCfg) (s : Store) (origin : RpId.Origin) (ostr : String)
    (req : AuthReq) (mode : ClientDataMode) (rp : Psl.Str) (ext : Option GetExtIn) (e : Nat)
    (hrp : RpId.assertDomain v origin req.rpId = .ok rp)
    (hext : authPrfInput req.allow req.ext (getInfo cfg u s).1.1 = .ok ext)
    (hga : (getAssertion cfg u (getInfo cfg u s).2
        { rpId := rp.map UInt8.ofNat, cdh := clientDataHash (clientDataJson "webauthn.get" req.challenge ostr mode) mode,
          allowList := req.allow, ext := ext, rk := false, up := true, uv := req.userVerification != .discouraged,
          pinAuth := false }).result = .error e) :
    (authenticate v cfg u s origin ostr req mode).result = .error (statusToWeb e) :=
  authenticate_error hrp hext hga

end PasskeyVerif.C03
