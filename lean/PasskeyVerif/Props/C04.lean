/-
C04 — No credential is created or used without user consent; flags are truthful.
Property theorems, and `envOf`, the environment a run of the model is judged in; for every authenticator configuration, user-validation configuration and answer,
store (kind, content, fault schedule), random draws and request.  Model: Model/Authenticator.lean
(tied to the code by the exhaustive correspondence stream over the finite product of the statement).
-/
import PasskeyVerif.Lemmas.AuthConsent
import PasskeyVerif.Lemmas.Client
namespace PasskeyVerif.C04
open PasskeyVerif.Auth PasskeyVerif.Auth.Spec PasskeyVerif.Generated
open PasskeyVerif.AuthData (Bytes AuthData)

def envOf (cfg : Cfg) (u : UvCfg) (s : Store) : Env := ⟨cfg, s.kind, u, storeObs s, s.faults.any Option.isSome⟩

/-- **Registration: consent before effect.** A credential is saved, or a result returned, only after the
user-validation step was asked with the requested options and reported presence (and verification when
requested). -/
theorem C04_make_effect_after_consent (cfg : Cfg) (u : UvCfg) (s : Store) (dr : Draws) (req : MakeReq) :
    c04_effect_after_consent (envOf cfg u s) (.make req) (obsOfMake (makeCredential cfg u s dr req)) = true := by
  rcases makeCredential_cases cfg u s dr req with q | ⟨flags, _, _, _, hs⟩
  · obtain ⟨e, he⟩ := q.error
    rw [obsOfMake_error he]
    exact effect_after_consent_of_quiet _ _ e _ _ q.trace
  · obtain ⟨rest, ht⟩ := hs.asked
    unfold obsOfMake
    rw [ht]
    exact effect_after_consent_of_asked _ (.make req) _ [] _ none _
      (consent_of_verdict (envOf cfg u s) (.make req) flags hs.consent).1 rfl

/-- **Registration: flags truthful.** UP and UV of the returned authenticator data are exactly what the
user-validation step reported. -/
theorem C04_make_flags_truthful (cfg : Cfg) (u : UvCfg) (s : Store) (dr : Draws) (req : MakeReq) :
    c04_flags_truthful (envOf cfg u s) (obsOfMake (makeCredential cfg u s dr req)) = true := by
  cases hr : (makeCredential cfg u s dr req).result with
  | error e => rw [obsOfMake_error hr]; rfl
  | ok r =>
    obtain ⟨flags, prf, stored, hs, rfl⟩ := makeCredential_ok hr
    obtain ⟨_, p, v, hans, rfl⟩ := consent_of_verdict (envOf cfg u s) (.make req) flags hs.consent
    unfold c04_flags_truthful obsOfMake
    simp only [hr, hans]
    cases hvec : (makeAuthData cfg dr req (flagsOf p v) (if cfg.counterOn then some 0 else none)).toVec with
    | none => rfl
    | some bs =>
      have := answer_bits _ bs p v (Flags.AT ||| Flags.AT) (Sha256.sha256_length _) hvec (by decide) (UInt8.or_assoc ..)
      simp [this.1, this.2]

/-- **Registration: the consent errors.** Verification requested but absent or unconfigured →
unsupported-option; presence waived → invalid-option (the user is not even asked); the validation step
fails → its error; the user denies → operation-denied — each leaving the store untouched. -/
theorem C04_make_errors (cfg : Cfg) (u : UvCfg) (s : Store) (dr : Draws) (req : MakeReq) :
    c04_errors (envOf cfg u s) (.make req) (obsOfMake (makeCredential cfg u s dr req)) = true := by
  rcases Bool.eq_false_or_eq_true req.up with hup | hup
  · refine errors_of_refusal _ (.make req) _ hup ?_
    intro e he
    obtain ⟨_, ho⟩ := makeCredential_of_refused cfg u s dr req he
    rw [ho, hup]; exact ⟨rfl, rfl⟩
  · rw [makeCredential_of_waived cfg u s dr req hup]
    simp [c04_errors, hup, obsOfMake, snapsEq, envOf]

/-- **Registration: no disclosure.** While consent is missing the outcome is the same function of the
request and the user-validation answer for any two stores (any content, any kind, any fault schedule). -/
theorem C04_make_no_disclosure (cfg : Cfg) (u : UvCfg) (s1 s2 : Store) (dr1 dr2 : Draws) (req : MakeReq)
    (hm : consentMissing (envOf cfg u s1) (.make req) = true) :
    outcomeKey (obsOfMake (makeCredential cfg u s1 dr1 req)) = outcomeKey (obsOfMake (makeCredential cfg u s2 dr2 req)) := by
  obtain ⟨e, hv⟩ := (consentMissing_iff ..).mp hm
  obtain ⟨_, h1⟩ := makeCredential_of_refused cfg u s1 dr1 req hv
  obtain ⟨_, h2⟩ := makeCredential_of_refused cfg u s2 dr2 req hv
  rw [h1, h2]; rfl

/-- **Assertion: consent before effect.** The counter is advanced, or a result returned, only after the
user-validation step was asked with the requested options and reported what was required. -/
theorem C04_get_effect_after_consent (cfg : Cfg) (u : UvCfg) (s : Store) (req : GetReq) (sig : Bytes) :
    c04_effect_after_consent (envOf cfg u s) (.get req) (obsOfGet (getAssertion cfg u s req) sig) = true := by
  rcases getAssertion_cases cfg u s req with q | ⟨p, rest, flags, -, hv, -, ho⟩
  · obtain ⟨e, he⟩ := q.error
    rw [obsOfGet_error he]
    exact effect_after_consent_of_quiet _ _ e _ _ q.trace
  · rw [ho]
    exact effect_after_consent_of_asked _ (.get req) _ [_] (getAfterConsent cfg s.tick req flags p).trace _ _
      (consent_of_verdict (envOf cfg u s) (.get req) flags hv).1 rfl

/-- **Assertion: flags truthful.** -/
theorem C04_get_flags_truthful (cfg : Cfg) (u : UvCfg) (s : Store) (req : GetReq) (sig : Bytes) :
    c04_flags_truthful (envOf cfg u s) (obsOfGet (getAssertion cfg u s req) sig) = true := by
  cases hr : (getAssertion cfg u s req).result with
  | error e => rw [obsOfGet_error hr]; rfl
  | ok r =>
    obtain ⟨cred, _, flags, -, hv, ha, -⟩ := getAssertion_ok hr
    have had := ha.authData
    obtain ⟨_, p, v, hans, rfl⟩ := consent_of_verdict (envOf cfg u s) (.get req) flags hv
    unfold c04_flags_truthful obsOfGet
    simp only [hr, hans]
    cases hvec : r.authData.toVec with
    | none => rfl
    | some bs =>
      have := answer_bits r.authData bs p v 0 (by rw [had]; exact Sha256.sha256_length _) hvec
        (by decide) (by rw [had]; exact UInt8.or_zero.symm)
      simp [this.1, this.2]

/-- **Assertion: the credential shown to the user for consent is the one that signs.** -/
theorem C04_get_shown_is_used (cfg : Cfg) (u : UvCfg) (s : Store) (req : GetReq) (sig : Bytes) :
    c04_shown_is_used (obsOfGet (getAssertion cfg u s req) sig) = true := by
  cases hr : (getAssertion cfg u s req).result with
  | error e => rw [obsOfGet_error hr]; rfl
  | ok r =>
    obtain ⟨cred, _, flags, -, -, ha, -, ho⟩ := getAssertion_ok hr
    have hid := ha.credId
    unfold c04_shown_is_used obsOfGet
    simp only [hr]
    cases r.authData.toVec with
    | none => rfl
    | some bs => rw [ho]; simp [evObsOf, hid]

/-- **Assertion: the consent errors**, each leaving the store untouched (pin-auth and rk option errors,
which the code raises before asking the user, likewise leave it untouched). -/
theorem C04_get_errors (cfg : Cfg) (u : UvCfg) (s : Store) (req : GetReq) (sig : Bytes) :
    c04_errors (envOf cfg u s) (.get req) (obsOfGet (getAssertion cfg u s req) sig) = true := by
  cases hpre : (req.pinAuth || req.rk)
  · rw [Bool.or_eq_false_iff] at hpre
    refine errors_of_refusal _ (.get req) _ hpre ?_
    intro e he
    obtain ⟨_, ho⟩ := getAssertion_of_refused cfg u s req he
    rw [ho, hpre.1, hpre.2]; exact ⟨rfl, rfl⟩
  · -- pre-empted: an error with the store untouched, whichever it is
    rcases getAssertion_cases cfg u s req with q | ⟨_, _, _, -, -, h, -⟩
    · obtain ⟨e, he⟩ := q.error
      rw [obsOfGet_error he]
      simp [c04_errors, hpre, snapsEq, envOf, q.same.storeObs]
    · rw [hpre] at h; cases h

/-- **Assertion: no disclosure.** While consent is missing the outcome is the same whether or not a
matching credential exists — for any two stores. -/
theorem C04_get_no_disclosure (cfg : Cfg) (u : UvCfg) (s1 s2 : Store) (req : GetReq) (sig1 sig2 : Bytes)
    (hm : consentMissing (envOf cfg u s1) (.get req) = true) :
    outcomeKey (obsOfGet (getAssertion cfg u s1 req) sig1) = outcomeKey (obsOfGet (getAssertion cfg u s2 req) sig2) := by
  obtain ⟨e, hv⟩ := (consentMissing_iff ..).mp hm
  obtain ⟨_, h1⟩ := getAssertion_of_refused cfg u s1 req hv
  obtain ⟨_, h2⟩ := getAssertion_of_refused cfg u s2 req hv
  rw [h1, h2]; rfl

/-! ### seen from the WebAuthn caller: `userVerification` is the request for verification -/

/-- `Client::authenticate` always requires presence and asks for verification exactly when
`userVerification` is not `discouraged`; so with verification asked for (required or preferred) on an
authenticator whose verification is absent or unconfigured the ceremony is an error and the store is
untouched — the client cannot turn the request into an unverified assertion. -/
theorem C04_client_authenticate_unsupported (v : RpId.Verifier) (cfg : Cfg) (u : UvCfg) (s : Store)
    (origin : RpId.Origin) (originStr : String) (req : Client.AuthReq) (mode : Client.ClientDataMode)
    (hreq : req.userVerification ≠ .discouraged) (hcap : u.verification ≠ some true) :
    (∃ e, (Client.authenticate v cfg u s origin originStr req mode).result = .error e)
      ∧ storeObs (Client.authenticate v cfg u s origin originStr req mode).store = storeObs s := by
  rw [Client.authenticate_eq]
  split
  · exact ⟨⟨_, rfl⟩, rfl⟩
  · split
    · exact ⟨⟨_, rfl⟩, rfl⟩
    · rename_i rp _ _ ext _
      have huv : (Client.ctapGetReq req originStr mode rp ext).uv = true := by simpa [Client.ctapGetReq] using hreq
      obtain ⟨ev, ho⟩ := getAssertion_of_refused cfg u (getInfo cfg u s).2 (Client.ctapGetReq req originStr mode rp ext)
        (huv ▸ verdict_unsupported u _ hcap)
      unfold Client.authReply
      rw [ho]
      exact ⟨⟨_, rfl⟩, rfl⟩

/-- the same for `Client::register` (which also always requires presence): verification asked for on an
authenticator without it is an error, nothing is saved -/
theorem C04_client_register_unsupported (v : RpId.Verifier) (cfg : Cfg) (u : UvCfg) (s : Store) (dr : Draws)
    (origin : RpId.Origin) (originStr : String) (req : Client.RegisterReq) (mode : Client.ClientDataMode)
    (hreq : req.selection.map (·.userVerification) ≠ some .discouraged) (hcap : u.verification ≠ some true) :
    (∃ e, (Client.register v cfg u s dr origin originStr req mode).result = .error e)
      ∧ storeObs (Client.register v cfg u s dr origin originStr req mode).store = storeObs s := by
  rw [Client.register_eq]
  split
  · exact ⟨⟨_, rfl⟩, rfl⟩
  · split
    · exact ⟨⟨_, rfl⟩, rfl⟩
    · rename_i rp _ _ ext _
      generalize Client.mapRk req.selection _ = rk
      have huv : (Client.ctapMakeReq rk req originStr mode rp ext).uv = true := by simpa [Client.ctapMakeReq] using hreq
      obtain ⟨ev, ho⟩ := makeCredential_of_refused cfg u (getInfo cfg u s).2 dr
        (Client.ctapMakeReq rk req originStr mode rp ext) (huv ▸ verdict_unsupported u _ hcap)
      unfold Client.registerReply
      rw [ho]
      exact ⟨⟨_, rfl⟩, rfl⟩

end PasskeyVerif.C04
