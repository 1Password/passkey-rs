/-
C10 — Public-suffix lookups agree with the shipped list under the PSL algorithm.
Property theorems only.  `TABLE` and `RULES` are regenerated from /repo/public-suffix/src/tld_list.rs and
/repo/public-suffix/public_suffix_list.dat on every run (translate/psl.py); the model of lib.rs is in
Model/Psl.lean (tied to the code by the correspondence stream); the specification in Spec/Psl.lean.
Every statement is for **all** byte strings; `C10_empty_label` and `C10_is_effective_tld` set the empty name aside
(`d ≠ []`: it is refused with the other error, and `is_effective_tld` answers true for it).
-/
import PasskeyVerif.Lemmas.PslFinal
import PasskeyVerif.Props.C10Table
namespace PasskeyVerif.C10
open PasskeyVerif.Psl PasskeyVerif.Psl.Spec

-- the table and the rule list are data; unification is not to look inside (it would hit the recursion limit)
attribute [local irreducible] TABLE RULES

theorem table_dec : ∃ f, Dec TABLE true 0 TABLE.numTld f ∧ f.rules = RULES :=
  dec_of_decodeTable C10Table.C10_table_is_the_rule_list

/-- the model computes the number of suffix labels the PSL algorithm gives over the shipped rule list:
every statement below follows from this by facts about strings -/
theorem suffix_start (d : Str) :
    1 ≤ suffixLabels RULES (revLabels d) ∧ suffixLabels RULES (revLabels d) ≤ (splitDots d).length
    ∧ publicSuffixStart TABLE d = some (d.length - (lastLabels (suffixLabels RULES (revLabels d)) d).length) := by
  obtain ⟨f, hD, hr⟩ := table_dec
  exact hr ▸ start_of_dec hD d

/-- **For every byte string, the public suffix computed from the compiled table is the one the
publicsuffix.org algorithm gives over the shipped rule list** — and the lookup does not panic. -/
theorem C10_suffix (d : Str) : publicSuffix TABLE d = some (Spec.publicSuffix RULES d) :=
  publicSuffix_of_start (suffix_start d).1 (suffix_start d).2.2

/-- **eTLD+1, closed form for every byte string**: names with an empty label are rejected; a name with
no more labels than its public suffix has no eTLD+1; otherwise the result is the public suffix plus
exactly one more label.  (`InvalidPublicSuffix` is never returned.) -/
theorem C10_etld1 (d : Str) :
    effectiveTldPlusOne TABLE d = some
      (if d ≠ [] ∧ Spec.hasEmptyLabel d = true then .error .emptyLabel
       else if (splitDots d).length ≤ suffixLabels RULES (revLabels d) then .error .cannotDeriveETldPlus1
       else .ok (lastLabels (suffixLabels RULES (revLabels d) + 1) d)) :=
  etld1_of_start (suffix_start d).1 (suffix_start d).2.2

/-- **The outcome of eTLD+1 satisfies `Spec.etldPlusOneOk`**, the predicate the harness evaluates as a
run-time oracle on what the crate returns. -/
theorem C10_etld1_meets_spec (d : Str) :
    ∃ r, effectiveTldPlusOne TABLE d = some r ∧ Spec.etldPlusOneOk RULES d r = true :=
  ⟨_, C10_etld1 d, etldPlusOneOk_etld1Of RULES d (suffix_start d).1⟩

/-- names with empty labels (leading, trailing or doubled dot) are rejected with `EmptyLabel` -/
theorem C10_empty_label (d : Str) (hne : d ≠ []) (h : Spec.hasEmptyLabel d = true) :
    effectiveTldPlusOne TABLE d = some (.error .emptyLabel) := by
  rw [C10_etld1, if_pos ⟨hne, h⟩]

theorem C10_is_effective_tld (d : Str) (hne : d ≠ []) :
    isEffectiveTld TABLE d = some (!Spec.hasEmptyLabel d && decide (Spec.publicSuffix RULES d = d)) := by
  rw [isEffectiveTld, hasEmptyLabel_iff d hne, C10_suffix]
  cases Spec.hasEmptyLabel d <;> simp

/-- the PSL algorithm over the shipped list always yields between one label and all labels -/
theorem C10_suffix_label_count (d : Str) :
    1 ≤ suffixLabels RULES (revLabels d) ∧ suffixLabels RULES (revLabels d) ≤ (splitDots d).length :=
  ⟨(suffix_start d).1, (suffix_start d).2.1⟩

/-- **Shape**: the public suffix is the last `n` labels of the input for some `1 ≤ n ≤ #labels` — a
suffix of the input cut at a label boundary — and the eTLD+1, when there is one, is the last `n+1`
labels: exactly one more label. -/
theorem C10_shape (d : Str) :
    ∃ n, 1 ≤ n ∧ n ≤ (splitDots d).length
      ∧ publicSuffix TABLE d = some (lastLabels n d)
      ∧ (∃ p, d = p ++ lastLabels n d)
      ∧ splitDots (lastLabels n d) = (splitDots d).drop ((splitDots d).length - n)
      ∧ ∀ x, effectiveTldPlusOne TABLE d = some (.ok x) →
          x = lastLabels (n + 1) d ∧ n + 1 ≤ (splitDots d).length
          ∧ splitDots x = (splitDots d).drop ((splitDots d).length - (n + 1)) := by
  obtain ⟨h1, h2, _⟩ := suffix_start d
  refine ⟨suffixLabels RULES (revLabels d), h1, h2, C10_suffix d, ?_, splitDots_lastLabels _ d h1, ?_⟩
  · exact ⟨d.take _, (List.take_append_drop _ d).symm.trans (by rw [drop_lastLabels _ d h1])⟩
  · intro x hx
    rw [C10_etld1] at hx
    split at hx
    · cases hx
    · split at hx
      · cases hx
      · cases hx
        exact ⟨rfl, by omega, splitDots_lastLabels _ d (by omega)⟩

/-- **No input string makes a lookup crash** (model outcome `none` = panic or out of fuel). -/
theorem C10_total (d : Str) :
    (publicSuffix TABLE d).isSome ∧ (effectiveTldPlusOne TABLE d).isSome ∧ (isEffectiveTld TABLE d).isSome := by
  refine ⟨by rw [C10_suffix]; rfl, by rw [C10_etld1]; rfl, ?_⟩
  rw [isEffectiveTld, C10_suffix]
  split <;> rfl

/-! non-vacuity: the general theorem (`Lemmas/PslWalk.lean`) is about every trie; here a concrete
three-rule trie (`uk`, `co.uk`, `*.ck`, `!www.ck`) and its walk -/
example :
    let f : Forest := .cons [99, 107] .parentOnly true (.cons [119, 119, 119] .exception false .nil .nil)
      (.cons [117, 107] .normal false (.cons [99, 111] .normal false .nil .nil) .nil)
    f.WF ∧ walkO f false [[117, 107], [99, 111], [120]] = some 2
      ∧ walkO f false [[99, 107], [119, 119, 119]] = some 1 ∧ walkO f false [[99, 107], [120], [121]] = some 2 := by
  refine ⟨?_, rfl, rfl, rfl⟩
  simp [Forest.WF, Forest.labels]

end PasskeyVerif.C10
