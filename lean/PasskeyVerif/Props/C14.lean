/-
C14 — WebAuthn JSON parses leniently, re-parses when emitted, client data keeps order.
Property theorems and the definitions their statements need.  Proved for all byte strings / all texts: the base64 round trips, the agreement of
the presentations of a binary member and of a number under the models of the `Bytes` visitor and of
`StringOrNum`, and the member order of re-serialised client data.  The struct level: the serde attributes of
the option structs and enums are regenerated from the source (Generated/WebauthnSchema.lean) and interpreted
by a model of what `#[derive(Deserialize)]` and the helpers of utils/serde.rs do (Model/SerdeStruct.lean,
compared with the real parsers on every document of the stream); proved of that model, for every schema:
unknown members are ignored wherever they stand and whatever their value, an unknown enumeration string
gives the default instead of an error, list entries that do not parse are dropped, and the parsed value
depends on a binary or numeric member only through the bytes / number it denotes.  The table theorems speak of
Generated/WebauthnSchema.lean as it is regenerated on every run.  That emitted credentials re-parse to an equal value
is proved of the serialiser model (Model/SerdeSer.lean, `C14_emitted_credentials_reparse`) and checked on the real pair
by the stream.  Client data at value level: Model/ClientDataJson.lean, the derived parser and serialiser of
`CollectedClientData` with its two flattened members, tied to the code by the `js.cdorder` stream, which compares names
and values of the real parse → re-serialise cycle with `reser`, on accepted and on refused documents.
-/
import PasskeyVerif.Lemmas.Base64
import PasskeyVerif.Lemmas.Serde
import PasskeyVerif.Lemmas.SerdeSer
import PasskeyVerif.Model.WebauthnJson
import PasskeyVerif.Lemmas.ClientDataJson
import PasskeyVerif.Generated.WebauthnSchema
namespace PasskeyVerif.C14
open PasskeyVerif PasskeyVerif.Json PasskeyVerif.WJson

/-- **base64url encoding followed by decoding is the identity on all byte strings.** -/
theorem C14_base64url_roundtrip (bs : List UInt8) : Base64.decodeLenient (Base64.encodeUrl bs) = some bs :=
  Base64.decodeLenient_encodeUrl bs

/-- the emitted text is unpadded and has neither of the two characters in which the standard alphabet differs
from the url-safe one -/
theorem C14_base64url_alphabet (bs : List UInt8) :
    ∀ c ∈ (Base64.encodeUrl bs).toList, c ≠ '=' ∧ c ≠ '+' ∧ c ≠ '/' := by
  intro c hc
  -- every character written is a symbol of the url alphabet, and these three are not
  have h := Base64.valueOf_encodeChars true bs c (by rwa [Base64.encodeUrl, String.toList_ofList] at hc)
  refine ⟨?_, ?_, ?_⟩ <;> (rintro rfl; exact h (by decide))

/-- number tokens denoting the byte values, pairwise -/
def Denote : List String → List UInt8 → Prop
  | [], [] => True
  | t :: ts, b :: bs => parseDecimal t.toList false = .int (b.toNat : Int) ∧ Denote ts bs
  | _, _ => False

/-- **A binary member parses to the same bytes in every presentation**: base64url text, standard base64
text with any amount of padding (including none), and an array of number tokens denoting the byte values. -/
theorem C14_binary_presentations (bs : List UInt8) (k : Nat) (tokens : List String) (h : Denote tokens bs) :
    bytesOf (.str (Base64.encodeUrl bs)) = some bs
    ∧ bytesOf (.str (String.ofList (Base64.encodeChars false bs ++ List.replicate k '='))) = some bs
    ∧ bytesOf (.arr (tokens.map Json.num)) = some bs := by
  refine ⟨Base64.decodeLenient_encodeUrl bs, Base64.decodeLenient_encode false bs k, ?_⟩
  fun_induction Denote tokens bs with
  | case1 => rfl
  | case2 t ts b bs ih => exact bytesOf_arr_cons t b _ bs h.1 (ih h.2)
  | case3 => exact h.elim

/-- **A number parses to the same value as a number token, as a numeric string and as an integral float**:
whenever the token and the text denote the value `v` of the target range (as integer or as a float whose
truncation is `v`), both are accepted with that value. What denotes what is the model's own reading (`ofToken`,
`ofText`); that `60000`, `"6e4"` and `60000.0` denote one value is the `example` below. -/
theorem C14_number_presentations (s t : String) (lo hi v : Int) (hr : lo ≤ v ∧ v ≤ hi)
    (hs : ofToken s = .int v ∨ ofToken s = .float v) (ht : ofText t lo hi = .int v ∨ ofText t lo hi = .float v) :
    numOf (.num s) lo hi = some (some v) ∧ numOf (.str t) lo hi = some (some v) := by
  unfold numOf finish
  rcases hs with hs | hs <;> rcases ht with ht | ht <;> simp [hs, ht, hr.1, hr.2]

/-- a number token whose value lies outside the target's range is an error -/
theorem C14_number_out_of_range (s : String) (lo hi v : Int) (hr : ¬(lo ≤ v ∧ v ≤ hi)) (hs : ofToken s = .int v ∨ ofToken s = .float v) :
    numOf (.num s) lo hi = some none := by
  unfold numOf finish
  rcases hs with hs | hs <;> simp [hs, hr]

/-- concrete presentations of one timeout (the texts as character lists, evaluated by the kernel) -/
example : parseDecimal ['6', '0', '0', '0', '0'] false = .int 60000
    ∧ parseDecimal ['6', '0', '0', '0', '0', '.', '0'] false = .float 60000
    ∧ parseDecimal ['6', 'e', '4'] false = .float 60000
    ∧ parseDecimal ['6', '.', '0', '0', 'E', '+', '0', '4'] true = .float 60000
    ∧ parseDecimal ['-', '7', '.', '0'] false = .float (-7)
    ∧ parseDecimal ['1', '.', '9'] false = .float 1
    ∧ parseDecimal ['1', 'e'] false = .bad := by decide

/-- **Client data member order**: a re-serialised `CollectedClientData` starts with type, challenge,
origin, crossOrigin in that order, followed by every other member of the input in its original order. -/
theorem C14_client_data_order (keys : List String) :
    (clientDataOrder keys).take 4 = ["type", "challenge", "origin", "crossOrigin"]
    ∧ (clientDataOrder keys).drop 4 = keys.filter (fun k => !["type", "challenge", "origin", "crossOrigin"].contains k)
    ∧ ((clientDataOrder keys).drop 4).Sublist keys := by
  refine ⟨rfl, rfl, ?_⟩
  show (keys.filter _).Sublist keys
  exact List.filter_sublist

open PasskeyVerif.Serde

/-- **Unknown members are ignored**: in any struct of any schema, a member whose name is neither a field
name nor an alias changes nothing, wherever it stands among the members and whatever JSON value it has. -/
theorem C14_unknown_members_ignored (S : Schema) (knownAlg : Int → Bool) (fuel : Nat) (buffered : Bool)
    (n : String) (sd : StructDef) (hsd : S.struct? n = some sd) (k : String) (v : Json) (hk : sd.fieldFor k = none)
    (l₁ l₂ : List (String × Json)) :
    parseStruct S knownAlg fuel buffered n (l₁ ++ (k, v) :: l₂) = parseStruct S knownAlg fuel buffered n (l₁ ++ l₂) := by
  cases fuel with
  | zero => rfl
  | succ f =>
    simp only [parseStruct, hsd, memberList_append_congr sd (parseMember S knownAlg f buffered) ((k, v) :: l₂) l₂
      (fun seen => by simp only [memberList, hk]) l₁ []]

/-- "Challenge" (or "mediation") is such an unknown member of the regenerated request options: names are case-sensitive -/
example : (Generated.Webauthn.schema.struct? "PublicKeyCredentialRequestOptions").bind (fun sd => sd.fieldFor "Challenge") = none := by
  decide +kernel

/-- **An unknown enumeration string is the default, not an error**: a member read through `ignore_unknown`
whose type is an enumeration (or an optional one) and whose value is a string that names no variant parses
to the type's default, reading from the text as well as inside a buffered list element.  (`fuel + 3`: one unit each
for the helper, the `Option` and the enumeration.) -/
theorem C14_unknown_enum_string_is_default (S : Schema) (knownAlg : Int → Bool) (fuel : Nat) (buffered : Bool)
    (f : Field) (n : String) (e : EnumDef) (s : String)
    (hw : f.wrap = .ignoreUnknown) (hty : f.ty = .enum n ∨ f.ty = .opt (.enum n))
    (he : S.enum? n = some e) (hs : e.variantOf s = none) :
    parseMember S knownAlg (fuel + 3) buffered f (.str s) = .ok (defaultOf S 8 f.ty) := by
  rcases hty with hty | hty
  · simp only [parseMember, hw, hty, parseTy, he, Option.bind_some, hs, isEnumish]
    cases buffered <;> rfl
  · simp only [parseMember, hw, hty, parseTy, he, Option.bind_some, hs, isEnumish, R.map]
    cases buffered <;> rfl

/-- a string that names a variant of the enumeration is read as that variant (`fuel + 2`: the helper and the enumeration) -/
theorem C14_known_enum_string (S : Schema) (knownAlg : Int → Bool) (fuel : Nat) (buffered : Bool)
    (f : Field) (n : String) (e : EnumDef) (s v : String)
    (hw : f.wrap = .ignoreUnknown) (hty : f.ty = .enum n) (he : S.enum? n = some e) (hs : e.variantOf s = some v) :
    parseMember S knownAlg (fuel + 2) buffered f (.str s) = .ok (.enumv v) := by
  simp only [parseMember, hw, hty, parseTy, he, Option.bind_some, hs]

/-- the enumerations of the regenerated schema: "telepathic" names no user-verification requirement, "cable" is
the alias of the hybrid transport -/
example : ((Generated.Webauthn.schema.enum? "UserVerificationRequirement").bind (·.variantOf "telepathic")) = none
    ∧ ((Generated.Webauthn.schema.enum? "AuthenticatorTransport").bind (·.variantOf "cable")) = some "hybrid" := by
  decide +kernel

/-- **Unknown list entries are dropped**: a list read through `ignore_unknown_opt_vec` / `ignore_unknown_vec`
yields exactly the elements that parse, in their order; an element that does not parse changes nothing,
wherever it stands. -/
theorem C14_unknown_list_entries_dropped (p : Json → R Val) :
    (∀ l, (∀ j ∈ l, p j ≠ .unmodelled) →
        lenientList p l = .ok (l.filterMap (fun j => match p j with | .ok v => some v | _ => none)))
    ∧ (∀ j, p j = .err → ∀ l₁ l₂, lenientList p (l₁ ++ j :: l₂) = lenientList p (l₁ ++ l₂)) :=
  ⟨lenientList_eq p, fun j hj l₁ l₂ => lenientList_append_congr p (j :: l₂) l₂ (by simp only [lenientList, hj]) l₁⟩

/-- **Presentations of a member**: the struct parsed from an object depends on the value of a member only
through what the member's own parser makes of it — so two presentations of a binary member denoting the same
bytes, or of a timeout / algorithm identifier denoting the same number, give the same struct. -/
theorem C14_member_presentation (S : Schema) (knownAlg : Int → Bool) (fuel : Nat) (buffered : Bool)
    (n : String) (sd : StructDef) (hsd : S.struct? n = some sd) (k : String) (j j' : Json)
    (h : ∀ f, sd.fieldFor k = some f → parseMember S knownAlg fuel buffered f j = parseMember S knownAlg fuel buffered f j')
    (l₁ l₂ : List (String × Json)) :
    parseStruct S knownAlg (fuel + 1) buffered n (l₁ ++ (k, j) :: l₂)
      = parseStruct S knownAlg (fuel + 1) buffered n (l₁ ++ (k, j') :: l₂) := by
  have hm (seen) : memberList sd (parseMember S knownAlg fuel buffered) ((k, j) :: l₂) seen
      = memberList sd (parseMember S knownAlg fuel buffered) ((k, j') :: l₂) seen := by
    simp only [memberList]
    cases hf : sd.fieldFor k with
    | none => rfl
    | some f => simp only [h f hf]
  simp only [parseStruct, hsd, memberList_append_congr sd _ _ _ hm l₁ []]

/-- a binary member (plain `Bytes`, or an optional one given a value): only the bytes denoted matter -/
theorem C14_bytes_member (S : Schema) (knownAlg : Int → Bool) (fuel : Nat) (buffered : Bool) (f : Field)
    (hw : f.wrap = .plain) (hty : f.ty = .bytes ∨ f.ty = .opt .bytes) (j j' : Json)
    (hn : j ≠ .null) (hn' : j' ≠ .null) (h : bytesOf j = bytesOf j') :
    parseMember S knownAlg fuel buffered f j = parseMember S knownAlg fuel buffered f j' := by
  cases fuel with
  | zero => rfl
  | succ fuel =>
    simp only [parseMember, hw]
    rcases hty with hty | hty <;> rw [hty]
    · exact parseTy_bytes_congr S knownAlg fuel buffered h
    · cases fuel with
      | zero => rfl
      | succ fuel => rw [parseTy_opt _ _ _ _ _ hn, parseTy_opt _ _ _ _ _ hn', parseTy_bytes_congr S knownAlg fuel buffered h]

/-- a timeout (`maybe_stringified`) or an algorithm identifier (`i64_to_iana`): only the number denoted matters -/
theorem C14_number_member (S : Schema) (knownAlg : Int → Bool) (fuel : Nat) (buffered : Bool) (f : Field) (j j' : Json) :
    (f.wrap = .maybeStringified → u32Of j = u32Of j' →
        parseMember S knownAlg fuel buffered f j = parseMember S knownAlg fuel buffered f j')
    ∧ (f.wrap = .i64ToIana → i64Of j = i64Of j' →
        parseMember S knownAlg fuel buffered f j = parseMember S knownAlg fuel buffered f j') := by
  cases fuel with
  | zero => exact ⟨fun _ _ => rfl, fun _ _ => rfl⟩
  | succ fuel =>
    constructor
    · intro hw h; simp only [parseMember, hw, h]
    · intro hw h; simp only [parseMember, hw, h]

/-- **End to end for the challenge of the regenerated request options**: as base64url text, as standard base64
text with any padding, and as an array of number tokens, the same bytes give the same parsed options,
whatever the other members are. -/
theorem C14_challenge_presentations (knownAlg : Int → Bool) (fuel : Nat) (bs : List UInt8) (pad : Nat)
    (tokens : List String) (hd : Denote tokens bs) (l₁ l₂ : List (String × Json)) :
    let parse := fun (j : Json) => parseStruct Generated.Webauthn.schema knownAlg (fuel + 1) false
      "PublicKeyCredentialRequestOptions" (l₁ ++ ("challenge", j) :: l₂)
    parse (.str (Base64.encodeUrl bs)) = parse (.str (String.ofList (Base64.encodeChars false bs ++ List.replicate pad '=')))
      ∧ parse (.str (Base64.encodeUrl bs)) = parse (.arr (tokens.map Json.num)) := by
  intro parse
  obtain ⟨h1, h2, h3⟩ := C14_binary_presentations bs pad tokens hd
  -- the one fact read off the table: the struct is there and its member "challenge" is a plain `Bytes`
  have htab : (Generated.Webauthn.schema.struct? "PublicKeyCredentialRequestOptions").bind (·.fieldFor "challenge")
      = some ⟨"challenge", "challenge", [], .bytes, false, .plain, false⟩ := by decide +kernel
  obtain ⟨sd, hs, hf⟩ := Option.bind_eq_some_iff.mp htab
  have key : ∀ j', j' ≠ .null → bytesOf j' = some bs → parse (.str (Base64.encodeUrl bs)) = parse j' := fun j' hn hj' =>
    C14_member_presentation _ knownAlg fuel false _ sd hs "challenge" _ _ (fun f hff => by
      cases hf.symm.trans hff
      exact C14_bytes_member _ knownAlg fuel false _ rfl (Or.inl rfl) _ _ (by simp) hn (h1.trans hj'.symm)) l₁ l₂
  exact ⟨key _ (by simp) h2, key _ (by simp) h3⟩

/-- members without which the parse is an error: no `#[serde(default)]` and not a plain `Option` -/
def requiredOf (sd : StructDef) : List String :=
  (sd.fields.filter (fun f => !f.dflt && !(isOpt f.ty && f.wrap == .plain))).map (·.json)

/-- **Every optional member may be absent**: in the option structs as they are in the source now, the members
that must be present are exactly those WebAuthn marks as required; every other member has a default. -/
theorem C14_required_members :
    Generated.Webauthn.structs.map (fun sd => (sd.name, requiredOf sd)) =
      [("CredentialRequestOptions", ["publicKey"]),
       ("PublicKeyCredentialRequestOptions", ["challenge"]),
       ("PublicKeyCredentialDescriptor", ["type", "id"]),
       ("AuthenticationExtensionsClientInputs", []),
       ("AuthenticationExtensionsPrfInputs", []),
       ("AuthenticationExtensionsPrfValues", ["first"]),
       ("CredentialCreationOptions", ["publicKey"]),
       ("PublicKeyCredentialCreationOptions", ["rp", "user", "challenge", "pubKeyCredParams"]),
       ("PublicKeyCredentialRpEntity", ["name"]),
       ("PublicKeyCredentialUserEntity", ["id", "displayName", "name"]),
       ("PublicKeyCredentialParameters", ["type", "alg"]),
       ("AuthenticatorSelectionCriteria", []),
       -- the credentials the client emits
       ("PublicKeyCredential<AuthenticatorAttestationResponse>", ["id", "rawId", "type", "response"]),
       ("AuthenticatorAttestationResponse", ["clientDataJSON", "authenticatorData", "publicKeyAlgorithm", "attestationObject"]),
       ("AuthenticationExtensionsClientOutputs", []),
       ("CredentialPropertiesOutput", []),
       ("AuthenticationExtensionsPrfOutputs", []),
       ("PublicKeyCredential<AuthenticatorAssertionResponse>", ["id", "rawId", "type", "response"]),
       ("AuthenticatorAssertionResponse", ["clientDataJSON", "authenticatorData", "signature"])] := by
  rfl

/-- the structs a relying party's options are parsed into (the rest of the schema is what the client emits) -/
def optionStructs : List StructDef :=
  Generated.Webauthn.structs.filter (fun sd => ["CredentialRequestOptions", "PublicKeyCredentialRequestOptions", "PublicKeyCredentialDescriptor",
    "AuthenticationExtensionsClientInputs", "AuthenticationExtensionsPrfInputs", "AuthenticationExtensionsPrfValues", "CredentialCreationOptions",
    "PublicKeyCredentialCreationOptions", "PublicKeyCredentialRpEntity", "PublicKeyCredentialUserEntity", "PublicKeyCredentialParameters",
    "AuthenticatorSelectionCriteria"].contains sd.name)

/-- the helper a member is read through must suit its type: enumerations (bare or optional) through
`ignore_unknown`, lists of enumerations or of descriptors / parameters through `ignore_unknown_opt_vec` /
`ignore_unknown_vec`, timeouts through `maybe_stringified`, algorithm identifiers through `i64_to_iana` -/
def lenientlyRead (f : Field) : Bool :=
  match f.ty with
  | .enum _ => f.wrap == .ignoreUnknown
  | .opt (.enum _) => f.wrap == .ignoreUnknown
  | .opt (.vec (.enum _)) => f.wrap == .ignoreUnknownOptVec
  | .opt (.vec (.struct _)) => f.wrap == .ignoreUnknownOptVec
  | .vec (.struct _) => f.wrap == .ignoreUnknownVec
  | .opt .u32 => f.wrap == .maybeStringified
  | .alg => f.wrap == .i64ToIana
  | .u32 => false
  | _ => true

/-- the part of the regenerated schema the client's output is made of: `PublicKeyCredential<R>` for both response
types and what they contain -/
def emittedSchema : Schema :=
  ⟨Generated.Webauthn.structs.filter (fun sd => ["PublicKeyCredential<AuthenticatorAttestationResponse>", "AuthenticatorAttestationResponse",
      "AuthenticationExtensionsClientOutputs", "CredentialPropertiesOutput", "AuthenticationExtensionsPrfOutputs", "AuthenticationExtensionsPrfValues",
      "PublicKeyCredential<AuthenticatorAssertionResponse>", "AuthenticatorAssertionResponse"].contains sd.name),
   Generated.Webauthn.enums⟩

/-- the obligations that look structs up by name, evaluated together: what such an evaluation costs is the conversion of
the name literals, and the kernel does that once per declaration.  The three theorems that follow are its parts. -/
theorem C14_regenerated_tables :
    (optionStructs.length = 12 ∧ (optionStructs.all (fun sd => sd.fields.all lenientlyRead)) = true
      ∧ (Generated.Webauthn.enums.all (fun e => !e.variants.isEmpty
          && (match e.dflt with | some d => e.variants.any (·.1 == d) | none => true))) = true
      ∧ (optionStructs.all (fun sd => sd.fields.all (fun f => match f.ty with
          | .enum n => ((Generated.Webauthn.schema.enum? n).bind (·.dflt)).isSome
          | _ => true))) = true)
    ∧ (Generated.Webauthn.structs.all (fun sd => (sd.fields.flatMap (fun f => f.json :: f.aliases)).Nodup)) = true
    ∧ (SchemaOk emittedSchema = true ∧ emittedSchema.structs.length = 8) := by
  decide +kernel

/-- **Unknown enumeration strings and unknown list entries are tolerated wherever they can occur**: every member
of an enumeration type, and every list of enumerations, descriptors or parameters, in every one of the twelve option
structs of the source as it is now, is read through the lenient helper (so the three theorems above apply to it); no
variant list is empty and every `#[default]` names a variant. -/
theorem C14_enumeration_members_are_lenient :
    optionStructs.length = 12 ∧ (optionStructs.all (fun sd => sd.fields.all lenientlyRead)) = true
    ∧ (Generated.Webauthn.enums.all (fun e => !e.variants.isEmpty
        && (match e.dflt with | some d => e.variants.any (·.1 == d) | none => true))) = true
    ∧ (optionStructs.all (fun sd => sd.fields.all (fun f => match f.ty with
        | .enum n => ((Generated.Webauthn.schema.enum? n).bind (·.dflt)).isSome
        | _ => true))) = true :=
  C14_regenerated_tables.1

/-- member names and aliases are distinct within each struct (so `fieldFor` is unambiguous) -/
theorem C14_member_names_distinct :
    (Generated.Webauthn.structs.all (fun sd => (sd.fields.flatMap (fun f => f.json :: f.aliases)).Nodup)) = true :=
  C14_regenerated_tables.2.1

/-- **Members are read under their WebAuthn names**: the JSON name of every member of every struct of the source as it
is now (after `rename` / `rename_all`) is the name the WebAuthn IDL gives it.  A struct that loses its `rename_all` would
still parse every document — its members all have defaults and unknown members are ignored — but to the all-default
value: "present" would read like "absent", and the regenerated model would follow the code; this table does not. -/
theorem C14_member_names_are_the_webauthn_names :
    Generated.Webauthn.structs.map (fun sd => (sd.name, sd.fields.map (·.json))) =
      [("CredentialRequestOptions", ["publicKey"]),
       ("PublicKeyCredentialRequestOptions",
        ["challenge", "timeout", "rpId", "allowCredentials", "userVerification", "hints", "attestation", "attestationFormats", "extensions"]),
       ("PublicKeyCredentialDescriptor", ["type", "id", "transports"]),
       ("AuthenticationExtensionsClientInputs", ["credProps", "prf", "prfAlreadyHashed"]),
       ("AuthenticationExtensionsPrfInputs", ["eval", "evalByCredential"]),
       ("AuthenticationExtensionsPrfValues", ["first", "second"]),
       ("CredentialCreationOptions", ["publicKey"]),
       ("PublicKeyCredentialCreationOptions",
        ["rp", "user", "challenge", "pubKeyCredParams", "timeout", "excludeCredentials", "authenticatorSelection", "hints",
         "attestation", "attestationFormats", "extensions"]),
       ("PublicKeyCredentialRpEntity", ["id", "name"]),
       ("PublicKeyCredentialUserEntity", ["id", "displayName", "name"]),
       ("PublicKeyCredentialParameters", ["type", "alg"]),
       ("AuthenticatorSelectionCriteria", ["authenticatorAttachment", "residentKey", "requireResidentKey", "userVerification"]),
       ("PublicKeyCredential<AuthenticatorAttestationResponse>",
        ["id", "rawId", "type", "response", "authenticatorAttachment", "clientExtensionResults"]),
       ("AuthenticatorAttestationResponse",
        ["clientDataJSON", "authenticatorData", "publicKey", "publicKeyAlgorithm", "attestationObject", "transports"]),
       ("AuthenticationExtensionsClientOutputs", ["credProps", "prf"]),
       ("CredentialPropertiesOutput", ["rk"]),
       ("AuthenticationExtensionsPrfOutputs", ["enabled", "results"]),
       ("PublicKeyCredential<AuthenticatorAssertionResponse>",
        ["id", "rawId", "type", "response", "authenticatorAttachment", "clientExtensionResults"]),
       ("AuthenticatorAssertionResponse", ["clientDataJSON", "authenticatorData", "signature", "userHandle", "attestationObject"])] := by
  rfl

/-- **An unknown enumeration string is ignored, not read as something else**: the value `ignore_unknown` falls back to is,
for each enumeration of the source as it is now, the default WebAuthn gives the member (`preferred`, `none`), nothing
(the optional ones), and for the credential type the catch-all `unknown` — never `public-key`, which would turn an
entry of a type this library does not know into a usable one. -/
theorem C14_unknown_strings_fall_back_to_the_webauthn_defaults :
    Generated.Webauthn.enums.map (fun e => (e.name, e.dflt)) =
      [("UserVerificationRequirement", some "preferred"),
       ("PublicKeyCredentialHints", none),
       ("AttestationConveyancePreference", some "none"),
       ("AttestationStatementFormatIdentifiers", some "none"),
       ("PublicKeyCredentialType", some "unknown"),
       ("AuthenticatorTransport", none),
       ("AuthenticatorAttachment", none),
       ("ResidentKeyRequirement", none)] := by
  rfl

/-- the structs of the source as it is now meet the conditions of the round trip: every helper is used on the type it
is written for, every member that is left out when `None` is optional and has a default (or is a plain `Option`),
member names are distinct, and all eight structs are there -/
theorem C14_emitted_schema_ok : SchemaOk emittedSchema = true ∧ emittedSchema.structs.length = 8 :=
  C14_regenerated_tables.2.2

/-- **Every credential the client emits serialises to JSON that parses back to an equal value** (model): for every
value `v` of either credential type — any id, any byte strings, any optional member present or absent, any
extension outputs, any algorithm number of the i64 range — and in either form of binary members (arrays of numbers,
or base64url text under the crate feature `serialize_bytes_as_base64_string`), whatever the serialiser model writes,
the parser model reads back as `v`. -/
theorem C14_emitted_credentials_reparse (b64 : Bool) (knownAlg : Int → Bool) (root : String)
    (hroot : root = "PublicKeyCredential<AuthenticatorAttestationResponse>" ∨ root = "PublicKeyCredential<AuthenticatorAssertionResponse>")
    (d : Nat) (v : Val) (j : Json) (F : Nat)
    (hv : wt emittedSchema knownAlg d (.struct root) v = true) (hs : serTy emittedSchema b64 d (.struct root) v = some j)
    (hF : 3 * d ≤ F) :
    parseTy emittedSchema knownAlg F false (.struct root) j = .ok v :=
  roundtrip emittedSchema b64 knownAlg C14_emitted_schema_ok.1 d (.struct root) v j F false rfl hv hs hF

/-- the serialiser model writes a binary member as an array of its byte values, or as unpadded base64url text under the
feature `serialize_bytes_as_base64_string`: the two forms `C14_binary_presentations` starts from -/
theorem C14_binary_members_written (S : Schema) (d : Nat) (b : List UInt8) :
    serTy S false (d + 1) .bytes (.bytes b) = some (.arr (b.map (fun x => .num (toString x.toNat))))
    ∧ serTy S true (d + 1) .bytes (.bytes b) = some (.str (Base64.encodeUrl b)) := ⟨rfl, rfl⟩

/-- a concrete registration credential is a value of its type and is written (non-vacuity of the round trip) -/
def exampleCredential : Val :=
  .record "PublicKeyCredential<AuthenticatorAttestationResponse>" [
    ("id", .str "AQID"), ("raw_id", .bytes [1, 2, 3]), ("ty", .enumv "public-key"),
    ("response", .record "AuthenticatorAttestationResponse" [
      ("client_data_json", .bytes [123, 125]), ("authenticator_data", .bytes [0, 1]), ("public_key", .none),
      ("public_key_algorithm", .int (-7)), ("attestation_object", .bytes [160]), ("transports", .some (.list [.enumv "internal", .enumv "hybrid"]))]),
    ("authenticator_attachment", .some (.enumv "platform")),
    ("client_extension_results", .record "AuthenticationExtensionsClientOutputs" [
      ("cred_props", .some (.record "CredentialPropertiesOutput" [("discoverable", .some (.bool true))])), ("prf", .none)])]

example : wt emittedSchema (fun _ => true) 6 (.struct "PublicKeyCredential<AuthenticatorAttestationResponse>") exampleCredential = true
    ∧ (serTy emittedSchema false 6 (.struct "PublicKeyCredential<AuthenticatorAttestationResponse>") exampleCredential).isSome = true := by
  decide +kernel

section ClientData
open PasskeyVerif.ClientDataJson

/-- **type, challenge, origin, crossOrigin first, in that order, once**: whatever the order of the members of an
accepted document, the re-serialised client data starts with exactly these four, carrying the document's type,
challenge and origin texts unchanged (crossOrigin `true` exactly when the document said `true`), and none of the
four names occurs again later. -/
theorem C14_client_data_fixed_members_first (ms out : Members) (h : reser ms = some out) :
    ∃ ty ch orig b, out.take 4 = [("type", .str ty), ("challenge", .str ch), ("origin", .str orig), ("crossOrigin", .bool b)]
      ∧ lookup ms "type" = some (.str ty) ∧ lookup ms "challenge" = some (.str ch) ∧ lookup ms "origin" = some (.str orig)
      ∧ (b = true ↔ lookup ms "crossOrigin" = some (.bool true))
      ∧ (∀ q ∈ out.drop 4, isFixed q.1 = false) := by
  obtain ⟨ty, ch, orig, b, _, h1, h2, h3, h4, rfl⟩ := reser_eq ms out h
  exact ⟨ty, ch, orig, b, rfl, h1, h2, h3, h4, fun q hq => (collectUnknown_names ms).2 q hq⟩

/-- **... followed by the extra and unknown members in their original order** — with their values: for a document
whose member names are distinct, what follows the four is the document's other members, untouched. -/
theorem C14_client_data_other_members_kept (ms out : Members) (h : reser ms = some out) (hn : (ms.map (·.1)).Nodup) :
    out.drop 4 = ms.filter (fun p => !isFixed p.1) := by
  obtain ⟨_, _, _, _, _, _, _, _, _, rfl⟩ := reser_eq ms out h
  exact collectUnknown_nodup ms hn

/-- the name-only model used by `C14_client_data_order` is the projection of the value-level one -/
theorem C14_client_data_names (ms out : Members) (h : reser ms = some out) (hn : (ms.map (·.1)).Nodup) :
    out.map (·.1) = clientDataOrder (ms.map (·.1)) := by
  obtain ⟨_, _, _, _, _, _, _, _, _, rfl⟩ := reser_eq ms out h
  rw [List.map_append, collectUnknown_nodup ms hn, clientDataOrder, List.filter_map]
  rfl

/-- **re-emitted client data is stable**: whatever was accepted (repeated unknown names included), the re-serialised
members are accepted again and written again as themselves — a signature over the first re-serialisation stays valid
over every later one. -/
theorem C14_client_data_reemitted_is_stable (ms out : Members) (h : reser ms = some out) :
    reser out = some out := by
  obtain ⟨ty, ch, orig, b, hty, _, _, _, _, rfl⟩ := reser_eq ms out h
  exact reser_fixed ty ch orig b _ hty (collectUnknown_names ms).2 (collectUnknown_names ms).1

/-- a repeated named member, a missing or ill-typed required member, an unknown type string and a non-boolean
crossOrigin are refused (the error branch, stated outright on concrete documents), and a concrete accepted document
with a repeated unknown name (non-vacuity; first position, last value) -/
example :
    reser [("type", .str "webauthn.get"), ("type", .str "webauthn.get"), ("challenge", .str "AA"), ("origin", .str "o")] = none
    ∧ reser [("type", .str "webauthn.get"), ("origin", .str "o")] = none
    ∧ reser [("type", .str "webauthn.get"), ("challenge", .num "1"), ("origin", .str "o")] = none
    ∧ reser [("type", .str "webauthn.other"), ("challenge", .str "AA"), ("origin", .str "o")] = none
    ∧ reser [("type", .str "webauthn.get"), ("challenge", .str "AA"), ("origin", .str "o"), ("crossOrigin", .str "true")] = none
    ∧ (reser [("z", .num "1"), ("origin", .str "o"), ("a", .null), ("challenge", .str "AA"), ("z", .num "2"), ("type", .str "payment.get")]).map
        (fun out => membersBeq out [("type", .str "payment.get"), ("challenge", .str "AA"), ("origin", .str "o"), ("crossOrigin", .bool false),
          ("z", .num "2"), ("a", .null)]) = some true := by
  decide +kernel

end ClientData

end PasskeyVerif.C14
