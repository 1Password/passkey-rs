/-
C16 — CTAPHID fragmentation and reassembly preserve every message, per channel.
The model (`Model/Hid.lean`) is tied to passkey-transports/src/hid.rs by the correspondence stream.
All statements are unbounded in payload length, number of channels, and stream length.
-/
import PasskeyVerif.Generated.Hid
import PasskeyVerif.Lemmas.Hid
namespace PasskeyVerif.C16
open PasskeyVerif.Hid

/-- The sender accepts every payload of at most 7608 bytes, unchanged. -/
theorem C16_accepts (ch : Chan) (cmd : Command) (data : Bytes) (h : data.length ≤ 7608) :
    ∃ m, Msg.new ch cmd data = some m ∧ Spec.sameMessage m ch cmd data := by
  exact ⟨_, (new_eq ch cmd data).trans (if_pos h), rfl, rfl, rfl, rfl⟩

/-- The sender refuses (rather than truncates) every payload of more than 7608 bytes.  The protocol maximum is
7609 = 57 + 128 · 59; `Message::new` refuses 7609 itself too, because `rest / 59 + 1 > 128` counts a packet too
many at exact multiples of 59, which the property statement permits. -/
theorem C16_too_big_refused (ch : Chan) (cmd : Command) (data : Bytes) (h : data.length > 7608) :
    Msg.new ch cmd data = none := (new_eq ch cmd data).trans (if_neg (Nat.not_le_of_gt h))

/-- What an accepted message is written as is exactly the specified packet list: one initialisation
packet `CID ‖ 0x80|CMD ‖ BCNT(be16) ‖ 57 bytes` followed by continuation packets `CID ‖ SEQ ‖ 59 bytes`
numbered 0,1,2,…, zero padded; no write panics. -/
theorem C16_send_is_spec (ch : Chan) (cmd : Command) (data : Bytes) (m : Msg)
    (h : Msg.new ch cmd data = some m) : m.send = some (Spec.packets ch cmd data) := by
  rw [new_eq] at h
  split at h <;> cases h
  exact send_packets ch cmd data ‹_›

/-- Shape: every packet is exactly 64 bytes; an accepted message needs at most 128 continuation
packets, so every sequence number has bit 7 clear. -/
theorem C16_packets_shape (ch : Chan) (cmd : Command) (data : Bytes) :
    (∀ p ∈ Spec.packets ch cmd data, p.length = 64)
    ∧ (Spec.packets ch cmd data).length = 1 + (data.length - 57 + 58) / 59
    ∧ (data.length ≤ 7608 → (Spec.packets ch cmd data).length ≤ 129) := by
  refine ⟨fun p hp => ?_, packets_count ch cmd data, fun h => Nat.succ_le_succ (specCont_le ch 0 data h)⟩
  rcases mem_packets ch cmd data p hp with rfl | ⟨k, c, hc, rfl⟩
  · exact initPacket_length ch cmd data
  · exact contPacket_length ch k c hc

/-- Round trip: feeding the packets of an accepted message to a receiver in *any* state returns nothing
for every packet but the last and, on the last packet, one message with the same channel, command
and payload; no other channel's entry is touched. -/
theorem C16_roundtrip (ch : Chan) (cmd : Command) (data : Bytes) (m : Msg) (pkts : List Bytes)
    (hnew : Msg.new ch cmd data = some m) (hsend : m.send = some pkts) (t : Table) :
    ∃ m', (feed t pkts).2 = List.replicate (pkts.length - 1) none ++ [some m']
      ∧ Spec.sameMessage m' ch cmd data
      ∧ ∀ c, c ≠ ch → (feed t pkts).1 c = t c := by
  cases (C16_send_is_spec ch cmd data m hnew).symm.trans hsend
  rw [new_eq] at hnew
  split at hnew <;> cases hnew
  rw [feed_packets ch cmd data ‹_› t]
  refine ⟨_, rfl, ⟨rfl, rfl, rfl, rfl⟩, fun c hc => ?_⟩
  dsimp only
  split
  · rfl
  · exact Table.set_other _ _ _ _ hc

/-- Locality: what the receiver returns for the packets of channel `c`, and channel `c`'s state
afterwards, are those of running `c`'s sub-stream alone, whatever other packets (of other channels,
malformed, of any number) are interleaved with it. -/
theorem C16_locality (c : Chan) (pkts : List Bytes) (t t' : Table) (h : t c = t' c) :
    Spec.outsOf c pkts (feed t pkts).2 = (feed t' (Spec.sub c pkts)).2
      ∧ (feed t pkts).1 c = (feed t' (Spec.sub c pkts)).1 c := by
  induction pkts generalizing t t' with
  | nil => exact ⟨rfl, h⟩
  | cons p ps ih =>
    rw [feed_cons]
    by_cases hc : Spec.chanOf p = some c
    · rw [sub_cons, if_pos hc, feed_cons, handlePacket_eq t p c hc, handlePacket_eq t' p c hc, h]
      obtain ⟨i1, i2⟩ := ih (t.set c (chanStep (t' c) p).1) (t'.set c (chanStep (t' c) p).1)
        ((Table.set_same _ _ _).trans (Table.set_same _ _ _).symm)
      simp only [Spec.outsOf, hc, if_true]
      exact ⟨by rw [i1], i2⟩
    · have hkeep : (handlePacket t p).1 c = t c := by
        cases hq : Spec.chanOf p with
        | none => rw [handlePacket_nochan t p hq]
        | some c' => rw [handlePacket_eq t p c' hq]; exact Table.set_other _ _ _ _ (fun e => hc (e ▸ hq))
      rw [sub_cons, if_neg hc]
      simp only [Spec.outsOf, hc, if_false]
      exact ih _ t' (hkeep.trans h)

/-- A channel's stream that is the concatenation of the packets of accepted messages m₁…mₙ delivers
exactly m₁…mₙ, each on its last packet, from any receiver state. -/
theorem C16_channel_sequence (c : Chan) (msgs : List (Command × Bytes))
    (hm : ∀ x ∈ msgs, x.2.length ≤ 7608) (t : Table) :
    (feed t (Spec.streamOf c msgs)).2.map (Option.map Spec.view) = Spec.expectedOuts c msgs := by
  induction msgs generalizing t with
  | nil => rfl
  | cons x xs ih =>
    rw [show Spec.streamOf c (x :: xs) = Spec.packets c x.1 x.2 ++ Spec.streamOf c xs from rfl, feed_append,
      feed_packets c x.1 x.2 (hm x List.mem_cons_self), List.map_append, ih (fun y hy => hm y (List.mem_cons_of_mem _ hy))]
    simp [Spec.expectedOuts, Spec.view]

/-- Interleaving (projection form): in **any** packet stream whose channel-`c` packets are, in order,
the packets of accepted messages m₁…mₙ, the receiver's answers to those packets are exactly
"nothing … nothing, mᵢ" per message, regardless of everything else in the stream and of the
receiver's prior state. -/
theorem C16_interleaving (c : Chan) (msgs : List (Command × Bytes)) (hm : ∀ x ∈ msgs, x.2.length ≤ 7608)
    (pkts : List Bytes) (hsub : Spec.sub c pkts = Spec.streamOf c msgs) (t : Table) :
    (Spec.outsOf c pkts (feed t pkts).2).map (Option.map Spec.view) = Spec.expectedOuts c msgs := by
  rw [(C16_locality c pkts t t rfl).1, hsub]
  exact C16_channel_sequence c msgs hm t

/-- Interleaving (merge form): for any number of channels with pairwise distinct ids, each sending any
sequence of accepted messages, and **any** merge of their packet streams that keeps each channel's own
order, every channel's answers are exactly its own messages in order. -/
theorem C16_interleaving_merge (chans : List (Chan × List (Command × Bytes)))
    (hnd : (chans.map (·.1)).Nodup)
    (hm : ∀ x ∈ chans, ∀ y ∈ x.2, y.2.length ≤ 7608)
    (pkts : List Bytes)
    (hmerge : Spec.IsMerge (chans.map (fun x => (x.1, Spec.streamOf x.1 x.2))) pkts)
    (t : Table) :
    ∀ x ∈ chans,
      (Spec.outsOf x.1 pkts (feed t pkts).2).map (Option.map Spec.view) = Spec.expectedOuts x.1 x.2 := by
  intro x hx
  apply C16_interleaving x.1 x.2 (hm x hx) pkts _ t
  refine sub_of_merge _ _ hmerge (fun y hy p hp => ?_) (by simpa [List.map_map, Function.comp_def] using hnd)
    (x.1, Spec.streamOf x.1 x.2) (List.mem_map_of_mem hx)
  obtain ⟨z, _, rfl⟩ := List.mem_map.mp hy
  exact streamOf_chan z.1 z.2 p hp

/-- The messages delivered *with channel id `c`* are exactly the ones returned for `c`'s packets.
(Stated for a fresh receiver; it holds from any table, `delivered_by_channel`, because `extend` refuses a
continuation header whose channel is not the message's.) -/
theorem C16_deliveries_by_channel (c : Chan) (pkts : List Bytes) :
    (Spec.delivered (feed Table.empty pkts).2).filter (fun m => m.channel = c)
      = Spec.delivered (Spec.outsOf c pkts (feed Table.empty pkts).2) :=
  delivered_by_channel c pkts Table.empty

/-- A continuation packet for a channel with no message in progress yields nothing and leaves the
receiver unchanged. -/
theorem C16_orphan_continuation (t : Table) (b0 b1 b2 b3 s : UInt8) (rest : Bytes)
    (hs : s &&& 0x80 ≠ 0x80) (ht : t ⟨b0, b1, b2, b3⟩ = none) :
    handlePacket t (b0 :: b1 :: b2 :: b3 :: s :: rest) = (t, none) := by
  rw [handlePacket_eq t _ ⟨b0, b1, b2, b3⟩ rfl, ht, chanStep_orphan b0 b1 b2 b3 s rest hs]
  exact congrArg (·, none) (Table.set_eq_self ht)

/-! non-vacuity: a concrete two-packet message meets the hypotheses -/
example : ∃ m, Msg.new ⟨1,2,3,4⟩ .cbor (List.replicate 60 7) = some m := ⟨_, rfl⟩
example : (Spec.packets ⟨1,2,3,4⟩ .cbor (List.replicate 60 7)).length = 2 := by
  rw [packets_count]; rfl
/-- The projection hypothesis of `C16_interleaving` is met by any channel's own stream. -/
example (c : Chan) (msgs : List (Command × Bytes)) : Spec.sub c (Spec.streamOf c msgs) = Spec.streamOf c msgs :=
  List.filter_eq_self.mpr (fun p hp => by simp [streamOf_chan c msgs p hp])
/-- The merge hypothesis of `C16_interleaving_merge` is met by a two-packet merge of two channels. -/
example (c d : Chan) (p q : Bytes) : Spec.IsMerge [(c, [p]), (d, [q])] [q, p] :=
  .step [(c, [p])] d q [] [] [p] (.step [] c p [] [(d, [])] [] (.done _ (by simp)))

/-- **A stray continuation after a delivered multi-packet message yields nothing**: once the packets of a message of
more than 57 bytes have been fed — to a receiver in any state — nothing is in progress on its channel, so a continuation
packet with any sequence number (in particular the one that would have come next) is answered with nothing and leaves
the receiver as it was.  (After a single-packet message the receiver's state for the channel is what it was before, so
an earlier unfinished transfer is still in progress there: see DESIGN §9.3, observed behaviour.) -/
theorem C16_stray_after_delivery (b0 b1 b2 b3 : UInt8) (cmd : Command) (data : Bytes) (hd : data.length ≤ 7608)
    (hm : 57 < data.length) (t : Table) (s : UInt8) (rest : Bytes) (hs : s &&& 0x80 ≠ 0x80) :
    handlePacket (feed t (Spec.packets ⟨b0, b1, b2, b3⟩ cmd data)).1 (b0 :: b1 :: b2 :: b3 :: s :: rest)
      = ((feed t (Spec.packets ⟨b0, b1, b2, b3⟩ cmd data)).1, none) :=
  C16_orphan_continuation _ b0 b1 b2 b3 s rest hs <| by
    rw [feed_packets _ cmd data hd t, if_neg (Nat.not_le_of_gt hm)]
    exact Table.set_same _ _ _

/-- **the framing constants of the model are those of the source as it is now** (regenerated on every run): packet
size, header sizes, packet-type bit, the continuation-packet limit of `Message::new`, the command bytes; and the
receiver's byte table knows exactly the commands the sender can frame -/
theorem C16_constants :
    Generated.Hid.maxPacketSize = maxPacket ∧ Generated.Hid.initHeaderSize = initHdr ∧ Generated.Hid.contHeaderSize = contHdr
    ∧ Generated.Hid.packetDescriptorBit = descBit.toNat
    ∧ Generated.Hid.commands.map (·.2) = Command.all.map (·.toByte.toNat)
    ∧ (∀ b : Fin 256, (Generated.Hid.commandOfByte.any (·.1 == b.val)) = (Command.ofByte (UInt8.ofNat b.val)).isSome)
    ∧ (Generated.Hid.commandOfByte.all (fun e => Generated.Hid.commands.any (fun c => c.1 == e.2 && c.2 == e.1))) = true
    ∧ (Generated.Hid.commands.all (fun c => Generated.Hid.commandOfByte.any (fun e => c.1 == e.2 && c.2 == e.1))) = true
    ∧ (∀ (ch : Chan) (cmd : Command) (data : Bytes), (Msg.new ch cmd data).isSome
        = decide (data.length ≤ 65535 ∧ ¬(data.length - initMax > 0 ∧ (data.length - initMax) / contMax + 1 > Generated.Hid.maxContinuationCount))) := by
  refine ⟨rfl, rfl, rfl, rfl, by decide, by decide +kernel, by decide +kernel, by decide +kernel, ?_⟩
  intro ch cmd data
  rw [new_eq, initMax_eq, contMax_eq, Generated.Hid.maxContinuationCount]
  split
  · exact (decide_eq_true (by omega)).symm
  · exact (decide_eq_false (by omega)).symm

end PasskeyVerif.C16
