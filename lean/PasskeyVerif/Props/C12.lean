/-
C12 — Authenticator data binary encoding follows the WebAuthn layout and round-trips.
Property theorems, and an example value that meets their hypotheses. Model: Model/AuthData.lean (attestation_fmt.rs, tied to the code by the
correspondence stream; flag constants regenerated from flags.rs). Third-party CBOR code (ciborium,
coset) enters as the interface `CborIface`: a reader that consumes exactly one item and accepts no
proper prefix of an item — the theorems hold for every such reader.  `C12_cbor_reader` proves that the
RFC 8949 reader the driver runs in ciborium's place (Base/Cbor.lean, Model/AuthDataCbor.lean) is such a
reader, and the `…_cbor` theorems are the same statements with that reader filled in.
-/
import PasskeyVerif.Lemmas.AuthData
namespace PasskeyVerif.C12
open PasskeyVerif.AuthData PasskeyVerif.Generated

/-- the regenerated flag constants are the WebAuthn bit positions (UP 0, UV 2, BE 3, BS 4, AT 6, ED 7),
bits 1 and 5 are reserved -/
theorem C12_flag_bits :
    Flags.UP = 1 ∧ Flags.UV = 4 ∧ Flags.BE = 8 ∧ Flags.BS = 16 ∧ Flags.AT = 64 ∧ Flags.ED = 128
      ∧ Flags.ALL = 221 := by decide

/-- **Layout**: `rpIdHash(32) ‖ flags(1) ‖ counter(4, big endian) ‖ [aaguid(16) ‖ idLen(2, big endian) ‖
id ‖ COSE key] ‖ [extensions]`, the AT bit forced on when the attested section is present; encoding
never panics for values built through `AttestedCredentialData::new`. -/
theorem C12_layout (a : AuthData) (hid : ∀ c, a.acd = some c → c.credId.length ≤ 65535) :
    a.toVec = some (a.rpIdHash ++ [if a.acd.isSome then a.flags ||| Flags.AT else a.flags]
      ++ be32 (a.counter.getD 0)
      ++ (match a.acd with
          | some c => c.aaguid ++ be16 c.credId.length ++ c.credId ++ c.key
          | none => [])
      ++ a.ext.getD []) :=
  (toVec_eq_some_iff a _).2 ⟨hid, rfl⟩

/-- **AT and ED are set exactly when the section is present**, for every value built with the provided
constructor and setters: `new`, `set_flags` with any of UP/UV/BE/BS, optionally
`set_attested_credential_data`, optionally extension outputs. -/
theorem C12_at_ed_iff_present (rp : Bytes) (counter : Option Nat) (acd : Option Acd) (ext : Option Bytes) :
    ∀ (u : UInt8), u &&& ~~~(Flags.UP ||| Flags.UV ||| Flags.BE ||| Flags.BS) = 0 →
    let a0 := (AuthData.new rp counter).setFlags u
    let a1 := match acd with | some c => a0.setAcd c | none => a0
    let a := a1.setExt ext
    let fb := if a.acd.isSome then a.flags ||| Flags.AT else a.flags
    (fb &&& Flags.AT = Flags.AT ↔ a.acd.isSome = true) ∧ (fb &&& Flags.ED = Flags.ED ↔ a.ext.isSome = true)
      ∧ a.acd = acd ∧ a.ext = ext ∧ fromBits fb = some fb := by
  intro u hu
  -- before a section is attached the flags have neither AT nor ED and are accepted by `from_bits`
  have hAT : (Flags.DEFAULT ||| u) &&& Flags.AT ≠ Flags.AT := by
    rw [and_or_distrib_right, and_eq_zero_of_sub u _ _ hu (by decide)]; decide
  have hED : (Flags.DEFAULT ||| u) &&& Flags.ED ≠ Flags.ED := by
    rw [and_or_distrib_right, and_eq_zero_of_sub u _ _ hu (by decide)]; decide
  have hok : fromBits (Flags.DEFAULT ||| u) = some (Flags.DEFAULT ||| u) :=
    fromBits_or _ _ (by decide) ((fromBits_eq_some u).2 (and_eq_zero_of_sub u _ _ hu (by decide)))
  have okAT : fromBits Flags.AT = some Flags.AT := by decide
  have okED : fromBits Flags.ED = some Flags.ED := by decide
  have dAE : Flags.AT &&& Flags.ED = 0 := by decide
  have dEA : Flags.ED &&& Flags.AT = 0 := by decide
  have no {p : Prop} (h : ¬ p) : p ↔ false = true := ⟨fun x => absurd x h, fun x => by cases x⟩
  have yes {p : Prop} (h : p) : p ↔ true = true := ⟨fun _ => rfl, fun _ => h⟩
  -- each setter ors its own bit in: that bit is then set, the other one is as before
  cases acd with
  | none =>
    cases ext with
    | none => exact ⟨no hAT, no hED, rfl, rfl, hok⟩
    | some e =>
      refine ⟨no ?_, yes (or_and_self _ _), rfl, rfl, fromBits_or _ _ hok okED⟩
      show (Flags.DEFAULT ||| u ||| Flags.ED) &&& Flags.AT ≠ Flags.AT
      rw [or_and_of_disjoint _ _ _ dEA]; exact hAT
  | some c =>
    cases ext with
    | none =>
      refine ⟨yes (or_and_self _ _), no ?_, rfl, rfl, fromBits_or _ _ (fromBits_or _ _ hok okAT) okAT⟩
      show ((Flags.DEFAULT ||| u ||| Flags.AT) ||| Flags.AT) &&& Flags.ED ≠ Flags.ED
      rw [or_and_of_disjoint _ _ _ dAE, or_and_of_disjoint _ _ _ dAE]; exact hED
    | some e =>
      refine ⟨yes (or_and_self _ _), yes ?_, rfl, rfl, fromBits_or _ _ (fromBits_or _ _ (fromBits_or _ _ hok okAT) okED) okAT⟩
      show ((Flags.DEFAULT ||| u ||| Flags.AT ||| Flags.ED) ||| Flags.AT) &&& Flags.ED = Flags.ED
      rw [or_and_of_disjoint _ _ _ dAE]; exact or_and_self _ _

/-- **Round trip**: decoding the encoding of a well-formed value returns it, with an absent counter
read back as zero and the AT bit as encoded. -/
theorem C12_roundtrip (I : CborIface) (a : AuthData) (h : WF I a) :
    ∃ bs, a.toVec = some bs ∧
      AuthData.fromSlice I.skip I.validKey bs
        = .ok { a with counter := some (a.counter.getD 0),
                       flags := if a.acd.isSome then a.flags ||| Flags.AT else a.flags } := by
  refine ⟨_, C12_layout a (fun c hc => (h.acdOk c hc).2.1), ?_⟩
  simp only [be32, List.append_assoc, List.cons_append, List.nil_append]
  rw [fromSlice_header _ _ _ _ _ _ _ _ _ h.hash, be32_roundtrip _ h.counter]
  cases hacd : a.acd with
  | none =>
    have hat : a.flags &&& Flags.AT ≠ Flags.AT := by
      rcases h.atIff with h1 | h1
      · rw [hacd] at h1; cases h1
      · exact h1
    simp only [Option.isSome, Bool.false_eq_true, if_false, h.flagsOk, if_neg hat, List.nil_append]
    rcases h.edIff with ⟨he1, he2⟩ | ⟨he1, he2⟩
    · cases hext : a.ext with
      | none => rw [hext] at he1; cases he1
      | some e =>
        have := I.skip_item e [] (h.extOk e hext)
        rw [List.append_nil] at this
        simp only [he2, if_true, Option.getD_some, this, List.take_length]
    · simp only [he2, if_false, he1, Option.getD_none]
  | some c =>
    obtain ⟨c1, c2, c3, c4⟩ := h.acdOk c hacd
    simp only [Option.isSome, if_true, fromBits_or _ _ h.flagsOk (show fromBits Flags.AT = some Flags.AT by decide),
      or_and_self, or_and_of_disjoint a.flags Flags.AT Flags.ED (by decide)]
    rcases h.edIff with ⟨he1, he2⟩ | ⟨he1, he2⟩
    · cases hext : a.ext with
      | none => rw [hext] at he1; cases he1
      | some e =>
        have := I.skip_item e [] (h.extOk e hext)
        rw [List.append_nil] at this
        simp only [Option.getD_some, ← List.append_assoc, acd_roundtrip I c e c1 c2 c3 c4, he2, if_true, this, List.take_length]
    · have := acd_roundtrip I c [] c1 c2 c3 c4
      rw [List.append_nil] at this
      simp only [he1, Option.getD_none, List.append_nil, ← List.append_assoc, this, he2, if_false]

/-- **Rejected**: inputs shorter than 37 bytes. -/
theorem C12_rejects_short (skip : Bytes → Option Nat) (validKey : Bytes → Bool) (v : Bytes) (h : v.length < 37) :
    AuthData.fromSlice skip validKey v = .error .tooShort :=
  fromSlice_short skip validKey v h

/-- **Rejected**: a flag byte with a reserved bit (bit 1 or bit 5). -/
theorem C12_rejects_reserved_bits (skip : Bytes → Option Nat) (validKey : Bytes → Bool)
    (hash : Bytes) (fb c0 c1 c2 c3 : UInt8) (rest : Bytes) (hh : hash.length = 32)
    (hres : fb &&& 34 ≠ 0) :
    ∃ e, AuthData.fromSlice skip validKey (hash ++ fb :: c0 :: c1 :: c2 :: c3 :: rest) = .error e := by
  rw [fromSlice_header _ _ _ _ _ _ _ _ _ hh, fromBits_reserved fb hres]
  exact ⟨_, rfl⟩

/-- **Rejected**: the AT flag with the attested section missing or cut anywhere inside it. -/
theorem C12_rejects_truncated_acd (I : CborIface) (hash : Bytes) (fb c0 c1 c2 c3 : UInt8)
    (hh : hash.length = 32) (hat : fb &&& Flags.AT = Flags.AT)
    (c : Acd) (c1' : c.aaguid.length = 16) (c2' : c.credId.length ≤ 65535) (c3' : I.IsItem c.key)
    (p q : Bytes) (hpq : c.aaguid ++ be16 c.credId.length ++ c.credId ++ c.key = p ++ q) (hq : q ≠ []) :
    ∃ e, AuthData.fromSlice I.skip I.validKey (hash ++ fb :: c0 :: c1 :: c2 :: c3 :: p) = .error e := by
  obtain ⟨e, he⟩ := acd_truncated I c c1' c2' c3' p q hpq hq
  rw [fromSlice_header _ _ _ _ _ _ _ _ _ hh, if_pos hat, he]
  cases fromBits fb <;> exact ⟨_, rfl⟩

/-- **Rejected**: the ED flag with the extension section missing or cut inside it, after an attested section
(present exactly when the AT flag says so) or without one. -/
theorem C12_rejects_truncated_ext_after (I : CborIface) (hash : Bytes) (fb c0 c1 c2 c3 : UInt8)
    (hh : hash.length = 32) (hed : fb &&& Flags.ED = Flags.ED) (acd : Option Acd)
    (hacd : match acd with
      | none => fb &&& Flags.AT ≠ Flags.AT
      | some c => fb &&& Flags.AT = Flags.AT ∧ c.aaguid.length = 16 ∧ c.credId.length ≤ 65535 ∧ I.IsItem c.key
          ∧ I.validKey c.key = true)
    (e p q : Bytes) (hi : I.IsItem e) (hpq : e = p ++ q) (hq : q ≠ []) :
    ∃ err, AuthData.fromSlice I.skip I.validKey (hash ++ fb :: c0 :: c1 :: c2 :: c3 ::
      ((match acd with
        | none => []
        | some c => c.aaguid ++ be16 c.credId.length ++ c.credId ++ c.key) ++ p)) = .error err := by
  rw [fromSlice_header _ _ _ _ _ _ _ _ _ hh]
  cases fromBits fb with
  | none => exact ⟨_, rfl⟩
  | some _ =>
    cases acd with
    | none =>
      simp only [List.nil_append, if_neg hacd, if_pos hed, I.skip_prefix e p q hi hpq hq]
      exact ⟨_, rfl⟩
    | some c =>
      obtain ⟨hat, c1, c2, c3, c4⟩ := hacd
      simp only [if_pos hat, acd_roundtrip I c p c1 c2 c3 c4, if_pos hed, I.skip_prefix e p q hi hpq hq]
      exact ⟨_, rfl⟩

/-- the case without an attested section -/
theorem C12_rejects_truncated_ext (I : CborIface) (hash : Bytes) (fb c0 c1 c2 c3 : UInt8)
    (hh : hash.length = 32) (hnat : fb &&& Flags.AT ≠ Flags.AT) (hed : fb &&& Flags.ED = Flags.ED)
    (e p q : Bytes) (hi : I.IsItem e) (hpq : e = p ++ q) (hq : q ≠ []) :
    ∃ err, AuthData.fromSlice I.skip I.validKey (hash ++ fb :: c0 :: c1 :: c2 :: c3 :: p) = .error err :=
  C12_rejects_truncated_ext_after I hash fb c0 c1 c2 c3 hh hed none hnat e p q hi hpq hq

/-- **Refused at construction**: credential ids longer than 65535 bytes. -/
theorem C12_id_too_long (aaguid credId key : Bytes) (h : credId.length > 65535) :
    Acd.new aaguid credId key = none := by
  unfold Acd.new; rw [if_neg (by omega)]

theorem C12_id_accepted (aaguid credId key : Bytes) (h : credId.length ≤ 65535) :
    Acd.new aaguid credId key = some ⟨aaguid, credId, key⟩ := by
  unfold Acd.new; rw [if_pos h]

/-- **The CBOR reader meets the interface**: for every well-formed item `x` (definite lengths, shortest
heads, arguments below 2^64) nested at most 256 deep, the reader run on `encode x` followed by any bytes
consumes exactly `encode x`, and run on any proper prefix of `encode x` it fails. -/
theorem C12_cbor_reader (x : Cbor.Item) (hwf : x.WF = true) (hd : x.depth ≤ 256) :
    (∀ rest, AuthData.skip (Cbor.encode x ++ rest) = some (Cbor.encode x).length)
    ∧ (∀ p q, Cbor.encode x = p ++ q → q ≠ [] → AuthData.skip p = none)
    ∧ (∀ rest, Cbor.decode1 (Cbor.encode x ++ rest) = some (x, rest)) :=
  ⟨fun rest => skip_item _ rest ⟨x, hwf, hd, rfl⟩,
   fun p q he hq => skip_prefix _ p q ⟨x, hwf, hd, rfl⟩ he hq,
   fun rest => Cbor.decode1_encode x hwf rest⟩

/-- `C12_roundtrip` with the reader filled in -/
theorem C12_roundtrip_cbor (a : AuthData) (h : WF cborIface a) :
    ∃ bs, a.toVec = some bs ∧
      AuthData.fromSlice AuthData.skip AuthData.validKey bs
        = .ok { a with counter := some (a.counter.getD 0),
                       flags := if a.acd.isSome then a.flags ||| Flags.AT else a.flags } :=
  C12_roundtrip cborIface a h

/-- `C12_rejects_truncated_acd` with the reader filled in: the COSE key is any well-formed item -/
theorem C12_rejects_truncated_acd_cbor (hash : Bytes) (fb c0 c1 c2 c3 : UInt8)
    (hh : hash.length = 32) (hat : fb &&& Flags.AT = Flags.AT)
    (aaguid credId : Bytes) (key : Cbor.Item) (c1' : aaguid.length = 16) (c2' : credId.length ≤ 65535)
    (hwf : key.WF = true) (hd : key.depth ≤ 256)
    (p q : Bytes) (hpq : aaguid ++ be16 credId.length ++ credId ++ Cbor.encode key = p ++ q) (hq : q ≠ []) :
    ∃ e, AuthData.fromSlice AuthData.skip AuthData.validKey (hash ++ fb :: c0 :: c1 :: c2 :: c3 :: p) = .error e :=
  C12_rejects_truncated_acd cborIface hash fb c0 c1 c2 c3 hh hat ⟨aaguid, credId, Cbor.encode key⟩ c1' c2'
    ⟨key, hwf, hd, rfl⟩ p q hpq hq

/-- `C12_rejects_truncated_ext` with the reader filled in -/
theorem C12_rejects_truncated_ext_cbor (hash : Bytes) (fb c0 c1 c2 c3 : UInt8)
    (hh : hash.length = 32) (hnat : fb &&& Flags.AT ≠ Flags.AT) (hed : fb &&& Flags.ED = Flags.ED)
    (ext : Cbor.Item) (hwf : ext.WF = true) (hd : ext.depth ≤ 256)
    (p q : Bytes) (hpq : Cbor.encode ext = p ++ q) (hq : q ≠ []) :
    ∃ err, AuthData.fromSlice AuthData.skip AuthData.validKey (hash ++ fb :: c0 :: c1 :: c2 :: c3 :: p) = .error err :=
  C12_rejects_truncated_ext cborIface hash fb c0 c1 c2 c3 hh hnat hed _ p q ⟨ext, hwf, hd, rfl⟩ hpq hq

/-- an ES256 COSE key `{1: 2, 3: -7, -1: 1, -2: x, -3: y}` and an `hmac-secret: true` extension map -/
def exampleKeyMembers : List (Cbor.Item × Cbor.Item) := [(.uint 1, .uint 2), (.uint 3, .nint 6), (.nint 0, .uint 1),
  (.nint 1, .bytes (List.replicate 32 7)), (.nint 2, .bytes (List.replicate 32 9))]
def exampleKey : Cbor.Item := .map exampleKeyMembers
def exampleExt : Cbor.Item := .map [(.text [104, 109, 97, 99, 45, 115, 101, 99, 114, 101, 116], .simple 21)]

/-- the hypotheses of `C12_roundtrip_cbor` are met by a value with every optional section present -/
def exampleData : AuthData :=
  { rpIdHash := List.replicate 32 1, flags := Flags.UP ||| Flags.UV ||| Flags.ED, counter := some 7,
    acd := some ⟨List.replicate 16 3, [1, 2, 3], Cbor.encode exampleKey⟩, ext := some (Cbor.encode exampleExt) }
example : WF cborIface exampleData where
  hash := by decide
  counter := by decide
  flagsOk := by decide
  atIff := Or.inl rfl
  edIff := Or.inl ⟨rfl, by decide⟩
  acdOk := by
    intro c hc; cases hc
    exact ⟨by decide, by decide, ⟨exampleKey, by decide, by decide, rfl⟩,
      show AuthData.validKey (Cbor.encode (.map exampleKeyMembers)) = true from
        validKey_encode exampleKeyMembers (by decide) (by decide)⟩
  extOk := by
    intro e he; cases he
    exact ⟨exampleExt, by decide, by decide, rfl⟩

/-- **The setters may be called in any order**: attaching credential data, attaching extension outputs and
setting flags commute, so a value does not depend on which was called first (no setter clears a bit or a
section another one put there). -/
theorem C12_setters_commute (a : AuthData) (c : Acd) (e : Option Bytes) (f : UInt8) :
    (a.setAcd c).setExt e = (a.setExt e).setAcd c
    ∧ (a.setFlags f).setAcd c = (a.setAcd c).setFlags f
    ∧ (a.setFlags f).setExt e = (a.setExt e).setFlags f := by
  refine ⟨?_, ?_, ?_⟩
  · cases e with
    | none => rfl
    | some e => simp [AuthData.setExt, AuthData.setAcd, AuthData.setFlags, or_right_comm8]
  · simp [AuthData.setAcd, AuthData.setFlags, or_right_comm8]
  · cases e with
    | none => rfl
    | some e => simp [AuthData.setExt, AuthData.setFlags, or_right_comm8]

end PasskeyVerif.C12
