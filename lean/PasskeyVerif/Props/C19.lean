/-
C19 — Shared-store concurrency never reuses a counter or loses a credential.
Property theorems only, about the interleaving model (Model/Concurrent.lean): ceremonies on authenticators
sharing one store through the lock wrappers are interleaved call by call (the wrappers lock per call).

Proved for every schedule: no ceremony waits for another (each finishes after at most five of its own
calls), and on the map-like stores no call removes a stored credential id, so the id of every successful
registration's credential is present afterwards.

REFUTED as stated: "successful assertions made with the same credential carry pairwise distinct
counters".  An assertion reports the counter of the snapshot it read at its lookup, whatever the store
holds when it writes back (`C19_assertion_reports_its_snapshot`); two assertions whose lookups both
precede both write-backs therefore report the same counter (`C19_counter_reuse`).  The implementation
shows the same on the real lock wrappers (known finding).  What does hold is the partial statement for
ceremonies that do not overlap (`C19_sequential_counters_partial`).
-/
import PasskeyVerif.Lemmas.Concurrent
import PasskeyVerif.Lemmas.AuthStore
namespace PasskeyVerif.C19
open PasskeyVerif.Auth PasskeyVerif.Auth.Spec PasskeyVerif.Conc
open PasskeyVerif.AuthData (Bytes AuthData)

/-- **No deadlock**: under any schedule whatsoever, a ceremony that has been given as many turns as it
has calls left (at most 5 for a registration, 3 for an assertion) has finished. That no call of one ceremony
waits for another is how the model is built (the lock is taken and released within each store call, so `step` is
total); what is proved is the bound on the number of turns. -/
theorem C19_no_deadlock (cfg : Cfg) (s : Store) (ts : List Thread) (sched : List Nat) (i : Nat) (t : Thread)
    (h : ts[i]? = some t) (hturns : rank t ≤ sched.count i) :
    ∃ t', (runSched cfg s ts sched).2[i]? = some t' ∧ t'.done = true := by
  obtain ⟨t', h1, h2⟩ := runSched_rank cfg s ts sched i t h
  exact ⟨t', h1, (rank_zero_iff_done t').mp (by omega)⟩

theorem C19_calls_bounded (t : Thread) : rank t ≤ 5 := by cases t <;> simp [rank]

/-- **Every successful registration's credential is present afterwards**: for any number of ceremonies,
any schedule and any map-like store (in-memory map, contract store — behind any lock wrapper), a
registration that ended successfully finds the id of its credential in the final store (a later registration
that draws the same id replaces the passkey under it). -/
theorem C19_registrations_present (cfg : Cfg) (s : Store) (ts : List Thread) (sched : List Nat) (hk : s.kind ≠ .singleSlot)
    (hstart : ∀ t ∈ ts, (∃ req u, t = startGet req u) ∨ (∃ req u dr, t = startMake req u dr))
    (r : MakeResp) (h : Thread.doneMake (.ok r) ∈ (runSched cfg s ts sched).2) :
    ∃ a, r.authData.acd = some a ∧ present a.credId (runSched cfg s ts sched).1.items = true :=
  runSched_inv cfg s ts sched hk (inv_of_started s ts hstart) _ h

/-- **An assertion reports the counter of the snapshot it read**, advanced by one, whatever the shared
store holds by the time it writes back. -/
theorem C19_assertion_reports_its_snapshot (cfg : Cfg) (s : Store) (req : GetReq) (flags : UInt8) (cred : Passkey) (c : Nat)
    (hc : cred.counter = some c) (r : GetResp)
    (h : (step cfg s (.getUpdate req flags cred)).2 = .doneGet (.ok r)) : r.authData.counter = some (bump c) := by
  simp only [step, Thread.doneGet.injEq] at h
  rw [(getAfterConsent_ok h).authData, hc]; rfl

/-- **Counter reuse (the statement's counter clause is false of the model)**: two assertions whose lookups
both found credential `p` (counter `c`) before either wrote back report the same counter `c+1`, for any
stores `s1`, `s2` they meet at their write-backs. -/
theorem C19_counter_reuse (cfg : Cfg) (s1 s2 : Store) (req1 req2 : GetReq) (f1 f2 : UInt8) (p : Passkey) (c : Nat)
    (hc : p.counter = some c) (r1 r2 : GetResp)
    (h1 : (step cfg s1 (.getUpdate req1 f1 p)).2 = .doneGet (.ok r1))
    (h2 : (step cfg s2 (.getUpdate req2 f2 p)).2 = .doneGet (.ok r2)) :
    r1.authData.counter = r2.authData.counter ∧ r1.authData.counter = some (bump c) := by
  have a := C19_assertion_reports_its_snapshot cfg s1 req1 f1 p c hc r1 h1
  have b := C19_assertion_reports_its_snapshot cfg s2 req2 f2 p c hc r2 h2
  exact ⟨by rw [a, b], a⟩

/-- **Both lookups hand out the same snapshot**: a lookup does not change the store content, so a
second lookup before any write-back sees what the first one saw. -/
theorem C19_lookups_share_the_snapshot (cfg : Cfg) (s : Store) (req : GetReq) (u : UvCfg) :
    (step cfg s (.getFind req u)).1.items = s.items ∧ (step cfg s (.getFind req u)).1.kind = s.kind := by
  have h := (step_quietly cfg s (.getFind req u) rfl).same
  exact ⟨h.items, h.kind⟩

/-- **Partial: ceremonies that do not overlap.** On a map-like store holding the credential `p` (counter
`c`), a completed assertion leaves exactly `p` with counter `c+1`; a lookup made afterwards returns that
rewritten credential, so (by `C19_assertion_reports_its_snapshot`) the next assertion reports `c+2`: counters of
assertions that run one after the other are distinct and the last one is the stored value.  What is missing
for the full statement is exactly the overlap refuted above. -/
theorem C19_sequential_counters_partial (cfg : Cfg) (s : Store) (p : Passkey) (c : Nat) (req : GetReq) (flags : UInt8) (r : GetResp)
    (hk : s.kind ≠ .singleSlot) (hitems : s.items = [p]) (hc : p.counter = some c)
    (h : (step cfg s (.getUpdate req flags p)).2 = .doneGet (.ok r)) :
    (step cfg s (.getUpdate req flags p)).1.items = [{ p with counter := some (bump c) }]
    ∧ findRaw s.kind [{ p with counter := some (bump c) }] (some [p.credId]) p.rpId = .ok [{ p with counter := some (bump c) }]
    ∧ r.authData.counter = some (bump c) := by
  refine ⟨?_, ?_, C19_assertion_reports_its_snapshot cfg s req flags p c hc r h⟩
  · simp only [step, Thread.doneGet.injEq] at h ⊢
    exact getAfterConsent_single cfg s req flags p c r hitems hc h
  · -- the store holds that credential alone: as after saving it into an empty store
    have := lookup_after_save s.kind [] { p with counter := some (bump c) }
    rwa [saveRaw_of_ne_singleSlot [] _ hk] at this

end PasskeyVerif.C19
