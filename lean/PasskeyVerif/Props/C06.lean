/-
C06 — Private keys and PRF secrets never appear in anything handed back to callers.
Property theorems, and `publicPasskeyExprs` (the renderings one of them is about).  On the model the statement is
a noninterference property: what a ceremony returns is the same whatever the private scalar is, and the same
whatever the PRF secrets are unless an
evaluation was asked for (then it is the HMAC of C09 and nothing else); the signature itself is outside
the model (`Signed` names the key that signs).  On the source, the translator regenerates which half of
the key pair is attested and what `Debug` of a stored passkey renders.  Every serialisation actually
returned by the implementation is scanned by the Spec (Spec/Secrets.lean) against the secrets read back
from the store.
-/
import PasskeyVerif.Lemmas.Secrets
import PasskeyVerif.Generated.Secrets
import PasskeyVerif.Spec.Secrets
import PasskeyVerif.Lemmas.Client
namespace PasskeyVerif.C06
open PasskeyVerif PasskeyVerif.Auth PasskeyVerif.Auth.Spec PasskeyVerif.Client
open PasskeyVerif.AuthData (Bytes AuthData)

/-- **The attested key carries public parameters only**: the COSE key placed in attested credential data
and the DER key of the client response are functions of the public point alone. -/
theorem C06_attested_key_public_only (k : Key) (d' : Bytes) :
    coseKeyBytes { k with d := d' } = coseKeyBytes k ∧ publicKeyDer { k with d := d' } = publicKeyDer k := ⟨rfl, rfl⟩

/-- regenerated from the source: the key attested is built by `new_ec2_pub_key`, the one stored by
`new_ec2_priv_key` (a swap of the two halves fails here) -/
theorem C06_attested_half_is_the_public_one :
    Generated.Secrets.attestedKeyBuilder = "new_ec2_pub_key" ∧ Generated.Secrets.storedKeyBuilder = "new_ec2_priv_key" := by
  decide

/-- the expressions a Debug rendering of a passkey may show -/
def publicPasskeyExprs : List String :=
  ["self.key.kty", "self.key.alg", "self.counter", "self.credential_id", "self.rp_id", "self.user_handle"]

/-- regenerated from the source: `Debug` for a stored passkey is hand-written and renders public fields
only; the passkey and the secret-holding extension structs derive neither `Debug` nor `Serialize`
(unconditionally or under a cfg). -/
theorem C06_debug_renders_no_secret :
    Generated.Secrets.passkeyDebugManual = true
    ∧ Generated.Secrets.passkeyDebugFields.all (fun f => publicPasskeyExprs.contains f.2) = true
    ∧ Generated.Secrets.derives.all (fun d => !d.2.1.contains "Debug" && !d.2.2.contains "Debug"
        && !d.2.1.contains "Serialize" && !d.2.2.contains "Serialize") = true
    ∧ (Generated.Secrets.derives.map (·.1)) = ["Passkey", "CredentialExtensions", "StoredHmacSecret"] :=
  ⟨rfl, rfl, rfl, rfl⟩

/-- **CTAP registration does not depend on the private scalar**: the response is the same for every
private scalar (same public point, id and secrets). -/
theorem C06_make_response_independent_of_private_scalar (cfg : Cfg) (u : UvCfg) (s : Store) (dr : Draws) (req : MakeReq) (d' : Bytes) :
    (makeCredential cfg u s (dr.withD d') req).result = (makeCredential cfg u s dr req).result := by
  rw [makeCredential_eq, makeCredential_eq]
  cases req.up
  · -- not `rfl`: the kernel would first try to identify the two untaken branches, which differ in the draws
    rw [if_neg Bool.false_ne_true, if_neg Bool.false_ne_true]
  · rw [if_pos rfl, if_pos rfl]
    cases verdict u true req.uv with
    | error e => rfl
    | ok flags => exact makeAfterConsent_result_withD cfg s dr req flags d'

/-- **... nor on the PRF secrets, unless an evaluation at creation was asked for** (in which case the
output is the HMAC of `C09_creation_results` and nothing else of the secrets). -/
theorem C06_make_prf_output_independent_of_secrets (cfg : Cfg) (dr : Draws) (request : Option MakeExtIn) (uv : Bool) (a b : Bytes)
    (hno : (request.bind (·.prf)).bind (·.eval) = none) :
    (makeExtensions cfg (dr.withSecrets a b) request uv).map (·.1) = (makeExtensions cfg dr request uv).map (·.1) := by
  rw [makeExtensions_eq, makeExtensions_eq]
  split
  · -- `prf` asked of a capable authenticator, without `eval`: the output says only whether secrets were built
    rename_i input h hin _
    have he : input.eval = none := by rw [hin] at hno; exact hno
    have hs := makeHmacSecret_isSome cfg dr (dr.withSecrets a b) (request.map fun r => r.hmacSecret.getD true)
    rw [he, ite_self]
    cases h1 : makeHmacSecret cfg (dr.withSecrets a b) _ with
    | none =>
      cases h2 : makeHmacSecret cfg dr _ with
      | none => rfl
      | some c => rw [h1, h2] at hs; cases hs
    | some c' =>
      cases h2 : makeHmacSecret cfg dr _ with
      | none => rw [h1, h2] at hs; cases hs
      | some c => rfl
  · rfl

/-- **Client registration does not depend on the private scalar.** -/
theorem C06_register_independent_of_private_scalar (v : RpId.Verifier) (cfg : Cfg) (u : UvCfg) (s : Store) (dr : Draws)
    (origin : RpId.Origin) (ostr : String) (req : RegisterReq) (mode : ClientDataMode) (d' : Bytes) :
    (register v cfg u s (dr.withD d') origin ostr req mode).result = (register v cfg u s dr origin ostr req mode).result := by
  rw [register_eq, register_eq]
  split
  · rfl
  · split
    · rfl
    · -- the reply reads the draws through the credential id and the public point only, and the outcome through
      -- its result and the kind of its store, which no draw changes
      rw [registerReply_result, registerReply_result, C06_make_response_independent_of_private_scalar]
      simp only [Store.info, makeCredential_kind]
      rfl

/-- **An assertion does not depend on the private scalar of the credential located** except in which key signs:
stated for `get_assertion` after consent with the store held fixed — credential id, authenticator data, user handle,
PRF output, the message signed and the public point are the same for every scalar of that credential. -/
theorem C06_assertion_independent_of_private_scalar (cfg : Cfg) (s : Store) (req : GetReq) (flags : UInt8) (cred : Passkey) (d' : Bytes) :
    (getAfterConsent cfg s req flags (cred.withD d')).result.map GetResp.pub
      = (getAfterConsent cfg s req flags cred).result.map GetResp.pub := by
  unfold getAfterConsent
  rw [show (cred.withD d').counter = cred.counter from rfl]
  split
  · rename_i c _
    dsimp only
    rw [show ({ cred.withD d' with counter := some (bump c) } : Passkey) = ({ cred with counter := some (bump c) } : Passkey).withD d'
      from rfl, update_status_withD]
    split
    · rfl
    · rw [Outcome.prepend_result, Outcome.prepend_result, signPhase_result_store cfg _ (s.update { cred with counter := some (bump c) }).2.1]
      exact signPhase_pub_withD ..
  · exact signPhase_pub_withD ..

/-- authenticator info never involves a credential: it is a function of configuration and store kind -/
theorem C06_info_independent_of_store_content (cfg : Cfg) (u : UvCfg) (s : Store) (items : List Passkey) :
    (getInfo cfg u { s with items := items }).1 = (getInfo cfg u s).1 := rfl

/-- the sub-list search of the scan finds an embedded secret and does not find a truncated one (the
text renderings are exercised by the `control-` lines of the stream, which must be hits) -/
example :
    let s : Bytes := (List.range 32).map (fun i => UInt8.ofNat (i * 7 + 3))
    Spec.Secrets.containsSub ([1, 2] ++ s ++ [9]) s = true
    ∧ Spec.Secrets.containsSub (Spec.Secrets.hexOf ([0xAA] ++ s) false) (Spec.Secrets.hexOf s false) = true
    ∧ Spec.Secrets.containsSub (s.take 31 ++ [0]) s = false := by decide

end PasskeyVerif.C06
