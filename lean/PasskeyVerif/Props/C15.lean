/-
C15 — Decoders of untrusted input never crash or allocate out of proportion.
Property theorems.  The repository's own decoders are modelled as total functions with an explicit
`panic` outcome where the Rust code can panic; the theorems say that outcome is never produced, and bound
what a decoder can reserve or return by the size of its input.  Facts about the Rust sources that the
models rely on (every reservation from a declared length is capped; list elements are buffered before
they are judged; no indexing / `split_at` / `unreachable!` left in the U2F parsers) are regenerated on
every run by translate/decoders.py and checked here by `decide`.
NOT covered by theorems: the third-party decoders underneath (ciborium, serde_json, coset, url, idna, nom)
and the serde-derived glue; for those only the stream of mutated inputs in isolated worker processes
speaks (PARTIAL).
-/
import PasskeyVerif.Generated.Decoders
import PasskeyVerif.Model.Decoders
import PasskeyVerif.Lemmas.Base64
import PasskeyVerif.Lemmas.AuthData
import PasskeyVerif.Lemmas.U2f
import PasskeyVerif.Lemmas.Hid
namespace PasskeyVerif.C15
open PasskeyVerif

/-- **Declared lengths are not trusted for reservations**: every `Vec::with_capacity` fed from a sequence's
size hint (directly, or through a local binding) in the shared deserialisation helpers is capped at a constant
(a literal or a named constant of the file), and no other use of a size hint is left (regenerated from the source). -/
theorem C15_reservations_capped :
    Generated.Decoders.reservations.all (fun r => match r.2.2 with | some c => c ≤ 4096 | none => false) = true
    ∧ Generated.Decoders.reservations ≠ [] ∧ Generated.Decoders.unfollowedSizeHints = 0 := by decide

/-- **Unknown list entries are buffered before they are judged**, so input errors propagate instead of
turning a truncated list into one 'unknown value' per declared element (regenerated from the source). -/
theorem C15_list_elements_buffered : Generated.Decoders.possiblyUnknownBuffered = true := by decide

/-- **No panicking construct is left** in the U2F request parsers and the COSE-key converter: no slice
index, `split_at`, unchecked `GenericArray::from_slice` or `unreachable!` on input (regenerated). -/
theorem C15_no_panic_sites : Generated.Decoders.panicSites = [] := by decide

/-- **The U2F request parser never panics**: for every byte string it returns a request or a status word.
The model's parser is written with total accessors, so this holds by its shape; that the code has no panicking
construct left is `C15_no_panic_sites`, and the two are tied by the stream. -/
theorem C15_u2f_never_panics (v : List UInt8) : U2f.parseRequest v ≠ .panic :=
  U2f.parseRequest_cases v (P := (· ≠ .panic)) (fun _ => U2f.Parsed.noConfusion) U2f.Parsed.noConfusion
    (fun _ _ => U2f.Parsed.noConfusion) (fun _ _ _ => U2f.Parsed.noConfusion)

/-- **The fields of a parsed U2F authentication request are cut out of the frame**: none is longer than the input. -/
theorem C15_u2f_fields_bounded (v : List UInt8) (p : UInt8) (c a h : List UInt8)
    (hp : U2f.parseRequest v = .authenticate p c a h) : c.length ≤ v.length ∧ a.length ≤ v.length ∧ h.length ≤ v.length := by
  revert hp
  refine U2f.parseRequest_cases v (P := fun r => r = .authenticate p c a h → _) (fun _ => U2f.Parsed.noConfusion)
    U2f.Parsed.noConfusion (fun _ _ => U2f.Parsed.noConfusion) (fun n p1 hl hp => ?_)
  cases hp
  simp only [List.length_take, List.length_drop]
  omega

/-- **CTAPHID packets** longer than 64 bytes or shorter than a continuation header are refused outright. -/
theorem C15_hid_packet_lengths (pkt : List UInt8) (h : pkt.length < 5 ∨ pkt.length > 64) : Hid.PacketHeader.tryFrom pkt = none :=
  if_pos h

/-- **A delivered CTAPHID message** has a payload exactly as long as its header declared, given a channel table in
which no stored message is longer than it declared (`hinv`). -/
theorem C15_hid_delivered_is_complete (t : Hid.Table) (pkt : List UInt8) (m : Hid.Msg)
    (hinv : ∀ c m', t c = some m' → m'.payload.length ≤ m'.payloadLen)
    (h : (Hid.handlePacket t pkt).2 = some m) : m.payload.length = m.payloadLen := by
  rcases Hid.handlePacket_delivers t pkt m h with ⟨ih, d, _, rfl, hc⟩ | ⟨ch, d, m0, _, ht, hx⟩
  · exact (beq_iff_eq.mp hc).symm
  · exact (Hid.extend_done m0 m ch d hx).2 (hinv _ _ ht)

/-- **Authenticator data** shorter than the fixed 37-byte header is refused, whatever the CBOR scanner and the key
check are. -/
theorem C15_authdata_short (skip : List UInt8 → Option Nat) (vk : List UInt8 → Bool) (v : List UInt8) (h : v.length < 37) :
    AuthData.AuthData.fromSlice skip vk v = .error .tooShort :=
  AuthData.fromSlice_short skip vk v h

/-- **Fingerprints**: an accepted certificate fingerprint is exactly 32 upper-case hex pairs separated by
colons (95 characters); the check reads each character once. -/
theorem C15_fingerprint_shape (cs : List Char) : ∀ n, Decoders.groups cs = some n → cs.length + 1 = 3 * n := by
  fun_induction Decoders.groups cs with
  | case1 a b h => intro n hn; simp at hn; subst hn; rfl
  | case2 a b h => intro n hn; cases hn
  | case3 a b rest h ih =>
    intro n hn
    cases hr : Decoders.groups rest with
    | none => simp [hr] at hn
    | some k =>
      simp only [hr, Option.map_some, Option.some.injEq] at hn
      have := ih k hr
      simp only [List.length_cons]; omega
  | case4 a b rest h => intro n hn; cases hn
  | case5 cs h1 h2 => intro n hn; cases hn

theorem C15_fingerprint_length (s : String) (h : Decoders.validFingerprint s = true) : s.toList.length = 95 := by
  unfold Decoders.validFingerprint at h
  have := C15_fingerprint_shape s.toList 32 (by simpa using h)
  omega

/-- **CBOR values are no larger than the bytes they were read from** (the modelled definite-length reader,
for every byte string and every fuel): one unit per item plus its payload bytes, and what is left over,
never exceed the input — a declared length of 2^64 elements with nothing behind it builds nothing. -/
theorem C15_cbor_value_within_input (fuel : Nat) (bs : List UInt8) (x : Cbor.Item) (r : List UInt8)
    (h : Cbor.decode fuel bs = some (x, r)) : x.size + r.length ≤ bs.length := by
  obtain ⟨c, rfl, hs, _⟩ := (Cbor.decode_reads_all fuel).1 bs x r h
  rw [List.length_append]; omega

/-- **A declared CBOR element count needs bytes**: a list of `n` items and what is left over never exceed the input,
so `n` items are only returned if at least `n` bytes follow. -/
theorem C15_cbor_declared_count_needs_bytes (fuel n : Nat) (bs : List UInt8) (xs : List Cbor.Item) (r : List UInt8)
    (h : Cbor.decodeList fuel n bs = some (xs, r)) : Cbor.sizeList xs + r.length ≤ bs.length := by
  obtain ⟨c, rfl, hs, _⟩ := (Cbor.decode_reads_all fuel).2.1 n bs xs r h
  rw [List.length_append]; omega

/-- **Base64 members**: the decoded bytes of a text of `k` characters number at most `3k/4`. -/
theorem C15_base64_output_within_input (s : String) (bs : List UInt8) (h : Base64.decodeLenient s = some bs) :
    4 * bs.length ≤ 3 * s.toList.length := Base64.decodeLenient_length s bs h

/-- **Authenticator data**: whatever the CBOR scanner and the key check answer, the parts of an accepted
value (RP ID hash, flags and counter, AAGUID, credential id, key bytes, extension bytes) together hold no
more bytes than the input has. -/
theorem C15_authdata_parts_within_input (skip : List UInt8 → Option Nat) (vk : List UInt8 → Bool) (v : List UInt8)
    (a : AuthData.AuthData) (h : AuthData.AuthData.fromSlice skip vk v = .ok a) : a.held ≤ v.length :=
  AuthData.AuthData.fromSlice_bound skip vk v a h

/-- the hypotheses are met by a real value: a map with a byte string and a nested array -/
example : Cbor.decode 10 [0xa1, 0x01, 0x82, 0x41, 0xff, 0x20, 0x99] =
    some (.map [(.uint 1, .array [.bytes [0xff], .nint 0])], [0x99]) ∧
    (Cbor.Item.map [(.uint 1, .array [.bytes [0xff], .nint 0])]).size = 6 := ⟨by rfl, by rfl⟩

end PasskeyVerif.C15
