/-
C17 — U2F registration and authentication messages are well-formed and verifiable.
Property theorems only, about the U2F model (Model/U2f.lean).  ECDSA is outside the model: a response
names the message signed and the key; every observed signature is verified by the Spec's P-256 oracle
over exactly that message under the returned / registered public key.
-/
import PasskeyVerif.Lemmas.U2f
import PasskeyVerif.Spec.U2f
namespace PasskeyVerif.C17
open PasskeyVerif PasskeyVerif.Auth PasskeyVerif.U2f
open PasskeyVerif.AuthData (Bytes)

/-- **Registration**: a successful U2F registration returns the drawn key's public point, the key handle
given, and signs 0x00 ‖ application ‖ challenge ‖ key handle ‖ (0x04 ‖ x ‖ y) with the drawn key; the
store accepted a credential for that application (its base64url text as RP ID) and key handle, holding
that key and counter zero. -/
theorem C17_register (s : Store) (k : Key) (app chal handle : Bytes) (r : RegisterResp)
    (h : (register s k app chal handle).1 = .ok r) :
    r.key = k ∧ r.keyHandle = handle ∧ r.signed.key = k
      ∧ r.signed.message = [0x00] ++ app ++ chal ++ handle ++ ([0x04] ++ k.x ++ k.y)
      ∧ (register s k app chal handle).2.1.items
          = saveRaw s.kind s.items { credId := handle, rpId := rpOfApplication app, userHandle := none, counter := some 0, key := k, hmac := none }
      ∧ (register s k app chal handle).2.2 = [Event.save (u2fPasskey app handle k) handle false false false none] := by
  have hf := fault_of_register_ok h
  rw [register_eq, hf] at h ⊢
  cases h
  exact ⟨rfl, rfl, rfl, rfl, rfl, rfl⟩

/-- a store error while saving fails the registration -/
theorem C17_register_store_error (s : Store) (k : Key) (app chal handle : Bytes) (e : Nat) (hf : s.fault? = some e) :
    (register s k app chal handle).1 = .error .other ∧ (register s k app chal handle).2.1.items = s.items := by
  rw [register_eq, hf]
  exact ⟨rfl, rfl⟩

/-- **Authentication**: a successful U2F authentication signs application ‖ presence byte ‖ big-endian
counter ‖ challenge with the key of the first credential the store lists for the key handle and the
application, and echoes presence and counter. -/
theorem C17_authenticate (s : Store) (app chal handle : Bytes) (counter : Nat) (presence : UInt8) (r : AuthResp)
    (h : (authenticate s app chal handle counter presence).1 = .ok r) :
    ∃ p rest, (s.find (some [handle]) (rpOfApplication app)).1 = .ok (p :: rest)
      ∧ r.signed.key = p.key ∧ r.signed.message = app ++ [presence] ++ U2f.be32 counter ++ chal
      ∧ r.presence = presence ∧ r.counter = counter
      ∧ (authenticate s app chal handle counter presence).2.1.items = s.items := by
  unfold authenticate at h ⊢
  dsimp only at h ⊢
  split at h
  · rename_i p rest hf
    cases h
    exact ⟨p, rest, hf, rfl, rfl, rfl, rfl, rfl⟩
  · cases h

/-- **An unknown key handle fails**: when the lookup for the key handle and application finds nothing
(or fails), there is no response. -/
theorem C17_unknown_handle_fails (s : Store) (app chal handle : Bytes) (counter : Nat) (presence : UInt8)
    (h : ∀ p rest, (s.find (some [handle]) (rpOfApplication app)).1 ≠ .ok (p :: rest)) :
    (authenticate s app chal handle counter presence).1 = .error .other := by
  unfold authenticate
  dsimp only
  split
  · rename_i p rest hf
    exact absurd hf (h p rest)
  · rfl

/-- **Register, then authenticate**: after a successful registration, an authentication with that key
handle and application (no store fault) signs with the registered key. -/
theorem C17_register_then_authenticate (s : Store) (k : Key) (app chal chal' handle : Bytes) (counter : Nat) (presence : UInt8)
    (r : RegisterResp) (h : (register s k app chal handle).1 = .ok r)
    (hnf : (register s k app chal handle).2.1.fault? = none) :
    ∃ a, (authenticate (register s k app chal handle).2.1 app chal' handle counter presence).1 = .ok a
      ∧ a.signed.key = k ∧ a.signed.message = app ++ [presence] ++ U2f.be32 counter ++ chal' := by
  have hs : (register s k app chal handle).2.1 = { s.tick with items := saveRaw s.kind s.items (u2fPasskey app handle k) } := by
    rw [register_eq, fault_of_register_ok h]
  have hfind : ((register s k app chal handle).2.1.find (some [handle]) (rpOfApplication app)).1 = .ok [u2fPasskey app handle k] := by
    rw [find_of_nofault hnf, hs]
    exact lookup_after_save s.kind s.items (u2fPasskey app handle k)
  unfold authenticate
  dsimp only
  rw [hfind]
  exact ⟨_, rfl, rfl, rfl⟩

/-- **Registration response layout**: reserved byte 0x05, the 65-byte public key, the one-byte key-handle
length, the key handle, the certificate, the signature, and the success status word. -/
theorem C17_encode_register (k : Key) (handle cert sig : Bytes) (hl : handle.length ≤ 255) :
    encodeRegister k handle cert sig = [0x05] ++ ([0x04] ++ k.x ++ k.y) ++ [UInt8.ofNat handle.length] ++ handle ++ cert ++ sig ++ [0x90, 0x00]
    ∧ (UInt8.ofNat handle.length).toNat = handle.length := by
  refine ⟨rfl, ?_⟩
  simp [UInt8.toNat_ofNat']
  omega

/-- **Authentication response layout**: presence byte, big-endian counter, signature, success status word;
the counter field reads back as the counter. -/
theorem C17_encode_authenticate (presence : UInt8) (counter : Nat) (sig : Bytes) (hc : counter < 4294967296) :
    encodeAuth presence counter sig = [presence] ++ U2f.be32 counter ++ sig ++ [0x90, 0x00]
    ∧ U2f.ofBe32 (U2f.be32 counter) = counter :=
  ⟨rfl, ofBe32_be32 counter hc⟩

/-- the version response is "U2F_V2" and the success status word -/
theorem C17_encode_version : encodeVersion = [0x55, 0x32, 0x46, 0x5f, 0x56, 0x32, 0x90, 0x00] := rfl

/-- **A well-formed register frame parses to its request** (with or without Le bytes). -/
theorem C17_parse_register (chal app le : Bytes) (hc : chal.length = 32) (ha : app.length = 32) :
    parseRequest (frame 0x01 0x00 (chal ++ app) le) = .register chal app := by
  have hd : (chal ++ app).length = 64 := by simp [hc, ha]
  rw [parse_frame _ _ _ _ (by omega), dispatch, hd, List.take_left' hc, List.drop_left' hc]
  rfl

/-- **A well-formed version frame parses to the version request.** -/
theorem C17_parse_version (le : Bytes) : parseRequest (frame 0x03 0x00 [] le) = .version := by
  rw [parse_frame _ _ _ _ (by simp)]
  rfl

/-- **A well-formed authenticate frame parses to its request**, for each control byte of the
specification and key handles of 0..255 bytes. -/
theorem C17_parse_authenticate (p1 : UInt8) (chal app handle le : Bytes) (hc : chal.length = 32) (ha : app.length = 32)
    (hh : handle.length ≤ 255) (hp : p1 = 0x03 ∨ p1 = 0x07 ∨ p1 = 0x08) :
    parseRequest (frame 0x02 p1 (chal ++ app ++ [UInt8.ofNat handle.length] ++ handle) le) = .authenticate p1 chal app handle := by
  have hd : (chal ++ app ++ [UInt8.ofNat handle.length] ++ handle).length = 65 + handle.length := by
    simp [hc, ha]
    omega
  have hp1 : (!(p1 == 0x07 || p1 == 0x03 || p1 == 0x08)) = false := by rcases hp with rfl | rfl | rfl <;> rfl
  rw [parse_frame _ _ _ _ (by omega), dispatch, parseAuthPayload_parts p1 chal app handle hc ha hh, hp1]
  rfl

end PasskeyVerif.C17
