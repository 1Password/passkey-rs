/-
C01 — RP ID is bound to the origin at a label boundary and is a registrable domain.
Property theorems only.  Model: Model/RpId.lean (RpIdVerifier of passkey-client/src/lib.rs, tied to the
code by the correspondence stream); specification: Spec/RpId.lean; default provider via C10.
-/
import PasskeyVerif.Lemmas.RpId
import PasskeyVerif.Props.C10

namespace PasskeyVerif.RpId
open PasskeyVerif.Psl (Str)

/-- the default provider: `DEFAULT_PROVIDER.effective_tld_plus_one(a).is_ok()` over the regenerated table -/
def defaultProvider (a : Str) : Bool :=
  match Psl.effectiveTldPlusOne Psl.TABLE a with
  | some (.ok _) => true
  | _ => false

end PasskeyVerif.RpId

namespace PasskeyVerif.C01
open PasskeyVerif.RpId
open PasskeyVerif.Psl (Str dot)

/-- **Soundness of acceptance**, for every verifier configuration (any suffix provider, any IDNA
function, localhost flag on or off), every origin and every requested RP ID: an accepted pair yields
exactly the effective RP ID (the one supplied, otherwise the host), which equals the host or is a
suffix of it beginning at a label boundary; web origins have a DNS host name and, unless the RP ID is
the literal `localhost` with the flag on, are HTTPS and the RP ID is registrable per the provider. -/
theorem C01_sound (v : Verifier) (o : Origin) (rp : Option Str) (d : Str)
    (h : assertDomain v o rp = .ok d) : Spec.Accepted v.allowLocalhost (registrable v) o rp d := by
  unfold assertDomain at h
  cases o with
  | web scheme domain =>
    unfold assertWebRpId at h
    cases domain with
    | none => cases h
    | some host =>
      dsimp only at h
      obtain ⟨hstep, hsuf⟩ := effective_of_ok host rp _ d h
      refine ⟨host, rfl, ?_⟩
      generalize rp.getD host = eff at hstep hsuf
      cases hv : assertValidRpId v eff with
      | some r =>
        rw [hv] at hstep
        cases hstep
        obtain ⟨rfl, hl, ha⟩ := assertValidRpId_ok hv
        exact ⟨rfl, hsuf, Or.inl ⟨hl, ha⟩⟩
      | none =>
        rw [hv] at hstep
        dsimp only at hstep
        split at hstep
        · cases hstep
        · rename_i hs
          cases hstep
          exact ⟨rfl, hsuf, Or.inr ⟨by simpa using hs, assertValidRpId_none hv⟩⟩
  | android host =>
    unfold assertAndroidRpId at h
    dsimp only at h
    obtain ⟨hstep, hsuf⟩ := effective_of_ok host rp _ d h
    show d = rp.getD host ∧ _
    generalize rp.getD host = eff at hstep hsuf
    split at hstep
    · cases hstep
    · rename_i hr
      cases hstep
      exact ⟨rfl, hsuf, by simpa using hr⟩

/-- **Default provider**: "registrable" is exactly "no empty label and more labels than the public
suffix the PSL algorithm gives over the shipped rule list" — for every (ASCII form of a) name. -/
theorem C01_default_registrable (a : Str) :
    defaultProvider a = Spec.registrableUnder Psl.RULES a := by
  unfold defaultProvider Spec.registrableUnder
  rw [C10.C10_etld1]
  by_cases ha : a = []
  · subst ha
    have : (Psl.Spec.splitDots ([] : Str)).length ≤ Psl.Spec.suffixLabels Psl.RULES (Psl.Spec.revLabels []) :=
      (C10.C10_suffix_label_count []).1
    simp [this, show Psl.Spec.hasEmptyLabel ([] : Str) = true from rfl]
  · by_cases he : Psl.Spec.hasEmptyLabel a = true
    · simp [he, ha]
    · by_cases hL : (Psl.Spec.splitDots a).length ≤ Psl.Spec.suffixLabels Psl.RULES (Psl.Spec.revLabels a) <;>
        simp [he, hL]
      omega

/-- **Public suffixes are rejected**: with the default provider, whatever the origin and the requested
RP ID, a name whose ASCII form is a public suffix of the shipped list (or has an empty label) is never
the accepted RP ID — unless it is the literal `localhost` with the flag on. -/
theorem C01_public_suffix_rejected (v : Verifier) (hv : v.provider = defaultProvider)
    (o : Origin) (rp : Option Str) (d a : Str) (ha : v.toAscii d = some a)
    (hps : Spec.registrableUnder Psl.RULES a = false)
    (h : assertDomain v o rp = .ok d) : d = localhost ∧ v.allowLocalhost = true ∧ ∃ s dm, o = .web s dm := by
  have hs := C01_sound v o rp d h
  have hreg : registrable v d = false := by
    unfold registrable; rw [ha, hv]; dsimp only; rw [C01_default_registrable]; exact hps
  cases o with
  | web scheme domain =>
    obtain ⟨host, _, _, _, hc⟩ := hs
    rcases hc with ⟨h1, h2⟩ | ⟨_, h2⟩
    · exact ⟨h1, h2, scheme, domain, rfl⟩
    · rw [hreg] at h2; cases h2
  | android host =>
    obtain ⟨_, _, h2⟩ := hs
    rw [hreg] at h2; cases h2

/-- a character-level suffix that is not label-aligned is never accepted (the repaired defect),
e.g. origin host `evilexample.com` with RP ID `example.com` -/
theorem C01_not_label_aligned_rejected (v : Verifier) (o : Origin) (host r d : Str)
    (ho : o = .web https (some host) ∨ o = .android host)
    (hne : host ≠ r) (hnb : ∀ p, host ≠ p ++ dot :: r) :
    assertDomain v o (some r) ≠ .ok d := by
  intro h
  have hs := C01_sound v o (some r) d h
  have key : d = r ∧ Spec.LabelSuffix d host := by
    rcases ho with rfl | rfl
    · obtain ⟨_, hh, hd, hl, _⟩ := hs
      cases hh
      exact ⟨hd, hl⟩
    · exact ⟨hs.1, hs.2.1⟩
  obtain ⟨rfl, hl | ⟨p, hp⟩⟩ := key
  · exact hne hl
  · exact hnb p hp

/-! non-vacuity: concrete accepted and rejected pairs (provider accepting everything, identity IDNA) -/
def vAll : Verifier := { allowLocalhost := false, provider := fun _ => true, toAscii := some }
-- host "b.a", RP ID "a": accepted, yields "a"
example : assertDomain vAll (.web https (some [98, 46, 97])) (some [97]) = .ok [97] := by rfl
-- host "ba", RP ID "a": a character-level suffix, rejected
example : assertDomain vAll (.web https (some [98, 97])) (some [97]) = .error .originRpMissmatch := by rfl
-- scheme "http": rejected
example : assertDomain vAll (.web [104, 116, 116, 112] (some [98, 46, 97])) none = .error .unprotectedOrigin := by rfl

end PasskeyVerif.C01
