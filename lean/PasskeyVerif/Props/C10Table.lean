/-
C10 — the kernel-checked obligation on the files regenerated from /repo (translate/psl.py):
`TABLE` from public-suffix/src/tld_list.rs, `RULES` from public-suffix/public_suffix_list.dat.
Re-checked by the kernel whenever either file changes.
-/
import PasskeyVerif.Lemmas.PslBlob
import PasskeyVerif.Model.PslDefault
namespace PasskeyVerif.C10Table
open PasskeyVerif.Psl PasskeyVerif.Psl.Spec PasskeyVerif.Generated

set_option maxRecDepth 1000000 in
/-- The one evaluation over the regenerated data: the packed table decodes (all indices in range, every
child range strictly sorted by label, no exception node among the TLDs) to a label trie; its rules, in
canonical order and serialised, are the rule blob byte for byte; they are as many as the blob says, and
well formed. The blob itself is not decoded: what it decodes to follows from `readRules_encodeRules`.
The depth `8` is a bound, not data: were the trie deeper, decoding would fail and this check with it. -/
theorem C10_table_is_blob :
    tableIsBlob TABLE 8 PslRules.BLOB PslRules.blobLen PslRules.rulesCount = true := by
  decide +kernel

theorem C10_regenerated_data :
    RULES?.isSome = true ∧ wfRules RULES = true ∧ (decodeTable TABLE 8).map Forest.rules = some RULES := by
  obtain ⟨f, hf, hr, hwf⟩ := tableIsBlob_sound C10_table_is_blob
  have hR : RULES? = some f.rules := hr
  have hrules : RULES = f.rules := by rw [RULES, hR]; rfl
  rw [hrules, hR, hf]
  exact ⟨rfl, hwf, rfl⟩

/-- The rules of the trie the packed table decodes to are exactly the rules of `public_suffix_list.dat`. -/
theorem C10_table_is_the_rule_list : (decodeTable TABLE 8).map Forest.rules = some RULES :=
  C10_regenerated_data.2.2

end PasskeyVerif.C10Table

/-! What the obligation says about the rule list alone. -/
namespace PasskeyVerif.C10Rules
open PasskeyVerif.Psl PasskeyVerif.Psl.Spec

/-- The rule blob is well formed: `RULES` is what it decodes to, not a default. -/
theorem C10_rules_decode : RULES?.isSome = true := C10Table.C10_regenerated_data.1

/-- No empty labels; exception rules have at least two labels and none extends another (the situations
in which "the exception rule prevails" is unambiguous). -/
theorem C10_rules_wellformed : wfRules RULES = true := C10Table.C10_regenerated_data.2.1

end PasskeyVerif.C10Rules
